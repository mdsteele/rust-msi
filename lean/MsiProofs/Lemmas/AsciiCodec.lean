import MsiModel.Codec
import MsiProofs.Lemmas.Utf8Codec
/-
ASCII text round-trips through every code page of the model (UTF-8, US-ASCII and the 24
ASCII-transparent table pages): the codec hypotheses of the pool and property-set round trips
hold for every ASCII string under every code page.
-/
namespace MsiProofs.AsciiCodec
open MsiModel MsiModel.Codec

/-- the bytes of an ASCII string -/
def asciiBytes (s : List Char) : List UInt8 := s.map fun c => UInt8.ofNat c.toNat

@[simp] theorem asciiBytes_length (s : List Char) : (asciiBytes s).length = s.length := by simp [asciiBytes]

theorem byte_toNat (c : Char) (h : c.toNat < 128) : (UInt8.ofNat c.toNat).toNat = c.toNat :=
  UInt8.toNat_ofNat_of_lt' (Nat.lt_trans h (by decide))

theorem utf8_ascii_char (c : Char) (h : c.toNat < 128) : String.utf8EncodeChar c = [UInt8.ofNat c.toNat] := by
  have hs : c.utf8Size = 1 := by
    unfold Char.utf8Size
    have : c.val ≤ 127 := by
      have : c.val.toNat < 128 := h
      exact UInt32.le_iff_toNat_le.mpr (by simp; omega)
    simp [this]
  rw [String.utf8EncodeChar_eq_singleton hs]
  congr 1

theorem flatMap_utf8_ascii (s : List Char) (h : ∀ c ∈ s, c.toNat < 128) :
    s.flatMap String.utf8EncodeChar = asciiBytes s := by
  induction s with
  | nil => rfl
  | cons c cs ih =>
    obtain ⟨hc, hcs⟩ := List.forall_mem_cons.mp h
    rw [List.flatMap_cons, utf8_ascii_char c hc, ih hcs]
    rfl

theorem asciiBytes_chars (s : List Char) (h : ∀ c ∈ s, c.toNat < 128) :
    (asciiBytes s).map (fun b => Char.ofNat b.toNat) = s := by
  rw [asciiBytes, List.map_map]
  conv => rhs; rw [← List.map_id s]
  exact List.map_congr_left fun c hc => by
    simp only [Function.comp, byte_toNat c (h c hc), id]
    exact Char.ofNat_toNat c

theorem asciiName_ne_utf8Name : ¬ asciiName = utf8Name := by decide +kernel

/-- **ASCII text round-trips under every code page of the model**, one byte per character -/
theorem ascii_roundtrip' (cp : Nat) (s : List Char) (h : ∀ c ∈ s, c.toNat < 128) :
    encode cp s = some (asciiBytes s) ∧ decode cp (asciiBytes s) = some s := by
  unfold encode decode
  by_cases h1 : some cp = utf8Name
  · simp only [h1, if_true, flatMap_utf8_ascii s h, true_and]
    have := Utf8Codec.lossy_roundtrip s ((asciiBytes s).length + 1) [] (by simp)
    rw [flatMap_utf8_ascii s h] at this
    simpa using this
  · by_cases h2 : some cp = asciiName
    · simp only [h2, asciiName_ne_utf8Name, if_false, if_true, Option.some.injEq]
      have he : CodePage.asciiEncode s = asciiBytes s :=
        List.map_congr_left fun c hc => by simp [h c hc]
      have hd : CodePage.asciiDecode (asciiBytes s) = (asciiBytes s).map (fun b => Char.ofNat b.toNat) :=
        List.map_congr_left fun b hb => by
          obtain ⟨c, hc, rfl⟩ := List.mem_map.mp hb
          rw [if_pos (by rw [byte_toNat c (h c hc)]; exact h c hc)]
      exact ⟨he, by rw [hd, asciiBytes_chars s h]⟩
    · have hall : isAsciiStr s = true := by simpa [isAsciiStr] using h
      have hbytes : (asciiBytes s).all (fun b => decide (b.toNat < 128)) = true := by
        simp only [asciiBytes, List.all_map, List.all_eq_true, Function.comp, decide_eq_true_eq]
        exact fun c hc => by rw [byte_toNat c (h c hc)]; exact h c hc
      simp only [h1, h2, if_false, hall, if_true, hbytes, asciiBytes_chars s h, and_true]
      rfl

end MsiProofs.AsciiCodec
