import MsiProofs.Lemmas.PoolText
import MsiProofs.Lemmas.AsciiSavable
import MsiProofs.Lemmas.RelationalLife
/-
The `Savable` hypothesis of the lifecycle theorem, discharged for ASCII text: when every string
handed to the library is ASCII (and shorter than 4 GiB), the pool of every reachable state can be
written and read back under any supported code page — only the well-formedness of the summary
remains an assumption at a save.
-/
namespace MsiProofs.AsciiLifecycle
open MsiModel MsiModel.Bytes MsiModel.Pkg MsiProofs.PoolText MsiProofs.Lifecycle MsiProofs.SaveOpen
open MsiProofs.CreateTable MsiProofs.FullHistory MsiProofs.Created MsiProofs.RelationalLife

section
variable (C : Nat → Prop) (A : List Char → Prop)

/-- the texts a call hands over satisfy `A`; a new code page satisfies `C` -/
def StepA : Step → Prop
  | .dml (.insert _ rows) => RowsA A rows
  | .dml (.update _ ups _) => ∀ u ∈ ups, ValA A u.2
  | .create n c => RowsA A (catalogRowsColumns n c) ∧ RowsA A [[.str n]] ∧ RowsA A (catalogRowsValidation n c)
  | .setCodepage cp => C cp
  | _ => True

/-- **one call keeps the pool fit to be written**; closing and reopening needs only that nothing
is pending -/
theorem step_pt' (h0 : A []) {slack : Nat → Nat} {s : Pkg} {tabs : List Table} (hF : Full slack s tabs)
    (st : Step) (hre : st = .reopen → Saved s) (hA : StepA C A st) (hp : PT C A s.pool) :
    PT C A (st.run s).pool := by
  cases ho : Step.isOther st with
  | false =>
    cases st with
    | dml op =>
      cases op with
      | insert t rows => exact insertExec_pt C A h0 { s with finisher := true } t rows hA hp
      | delete t cond => exact deleteExec_pt C A h0 { s with finisher := true } t cond hp
      | update t ups cond => exact updateExec_pt C A h0 { s with finisher := true } t ups cond hA hp
    | create n c => exact createTable_pt C A h0 s n c hA.1 hA.2.1 hA.2.2 hp
    | drop n => exact dropTable_pt C A h0 s n hp
    | _ => cases ho
  | true =>
    -- the other calls keep the strings, and the code page unless they set it
    obtain ⟨-, hs, -, -, hc⟩ := run_other hF st ho hre
    by_cases hcp : ∃ cp, st = .setCodepage cp
    · obtain ⟨cp, rfl⟩ := hcp
      exact ⟨hA, hp.2⟩
    · unfold PT
      rw [hs, hc fun cp e => hcp ⟨cp, e⟩]
      exact hp

theorem step_pt (h0 : A []) (slack : Nat → Nat) (s : Pkg) (tabs : List Table) (hF : Full slack s tabs)
    (st : Step) (ha : st.Admissible s) (hA : StepA C A st) (hp : PT C A s.pool) : PT C A (st.run s).pool :=
  step_pt' C A h0 hF st (fun e => by subst e; exact ha) hA hp

theorem admissible_of_ok {E : List Char → Bytes} {s : Pkg} {st : Step} (hp : MsiProofs.PoolCodec.PoolOk s.pool E)
    (h : match st with
      | .save => (flush s).2 = .ok () ∧ MsiProofs.PropSetCodec.WF s.summary ∧ s.summary.fmtid = Gen.summaryFmtid
      | st => st.Admissible s) : st.Admissible s := by
  cases st with
  | save => exact ⟨h.1, E, h.2.1, h.2.2, hp⟩
  | _ => exact h

/-- **every reachable state keeps every invariant and a pool fit to be written**, for a history
`Adm` of calls `Ok` that hand over texts satisfying `A` and are admissible given such a pool; so
the history is admissible in the sense of the lifecycle theorem -/
theorem history_pt (h0 : A []) {Ok : Pkg → Step → Prop} {Adm : Pkg → List Step → Prop}
    (hcons : ∀ s st rest, Adm s (st :: rest) → Ok s st ∧ Adm (st.run s) rest)
    (hA : ∀ s st, Ok s st → StepA C A st) (hadm : ∀ s st, PT C A s.pool → Ok s st → st.Admissible s)
    (slack : Nat → Nat) : ∀ (steps : List Step) (s : Pkg) (tabs : List Table), Full slack s tabs →
    NoOrphans s → PT C A s.pool → Adm s steps →
    Admissible s steps ∧ PT C A (runAll s steps).pool ∧
    ∃ tabs', Full slack (runAll s steps) tabs' ∧ NoOrphans (runAll s steps)
  | [], _, tabs, hF, hN, hp, _ => ⟨trivial, hp, tabs, hF, hN⟩
  | st :: rest, s, tabs, hF, hN, hp, ha =>
    have ⟨hok, ha'⟩ := hcons s st rest ha
    have hst := hadm s st hp hok
    have ⟨tabs', hF', hN'⟩ := step_full slack s tabs hF hN st hst
    have ⟨h1, h2⟩ := history_pt h0 hcons hA hadm slack rest _ tabs' hF' hN'
      (step_pt C A h0 slack s tabs hF st hst (hA s st hok) hp) ha'
    ⟨⟨hst, h1⟩, h2⟩

end

def Supported (cp : Nat) : Prop := cp < Gen.cpVariants.length

/-- ASCII text shorter than 4 GiB -/
def AsciiShort (s : List Char) : Prop := MsiProofs.AsciiSavable.IsAscii s ∧ s.length < 4294967296

theorem asciiShort_nil : AsciiShort [] := ⟨fun _ h => (by cases h), (by simp)⟩

theorem poolOk_of_pt (p : Pool) (h : PT Supported AsciiShort p) : MsiProofs.PoolCodec.PoolOk p MsiProofs.AsciiCodec.asciiBytes :=
  MsiProofs.AsciiSavable.poolOk_ascii p h.1 (fun e he => (h.2 e he).1.1)
    (fun e he => ⟨(h.2 e he).1.2, (h.2 e he).2.1, (h.2 e he).2.2⟩)

/-- the calls covered, with `Savable` at a save reduced to the summary's well-formedness -/
def StepOk (s : Pkg) (st : Step) : Prop :=
  StepA Supported AsciiShort st ∧
  match st with
  | .save => (flush s).2 = .ok () ∧ MsiProofs.PropSetCodec.WF s.summary ∧ s.summary.fmtid = Gen.summaryFmtid
  | st => st.Admissible s

def AdmissibleA : Pkg → List Step → Prop
  | _, [] => True
  | s, st :: rest => StepOk s st ∧ AdmissibleA (st.run s) rest

/-- **every reachable state keeps every invariant and a pool fit to be written** -/
theorem historyA (slack : Nat → Nat) (steps : List Step) : ∀ (s : Pkg) (tabs : List Table),
    Full slack s tabs → NoOrphans s → PT Supported AsciiShort s.pool → AdmissibleA s steps →
    Admissible s steps ∧ PT Supported AsciiShort (runAll s steps).pool ∧
    ∃ tabs', Full slack (runAll s steps) tabs' ∧ NoOrphans (runAll s steps) :=
  history_pt Supported AsciiShort asciiShort_nil (Ok := StepOk) (fun _ _ _ h => h) (fun _ _ h => h.1)
    (fun _ _ hp h => admissible_of_ok (poolOk_of_pt _ hp) h.2) slack steps

/-- executable form of "every text of these rows is ASCII and short" -/
def valAsciiB : Value → Bool
  | .str s => s.all (fun c => decide (c.toNat < 128)) && decide (s.length < 4294967296)
  | _ => true
def rowsAsciiB (rows : List (List Value)) : Bool := rows.all fun r => r.all valAsciiB

theorem rowsA_of_check (rows : List (List Value)) (h : rowsAsciiB rows = true) : RowsA AsciiShort rows := by
  intro r hr v hv
  have h1 := List.all_eq_true.mp (List.all_eq_true.mp h r hr) v hv
  cases v with
  | null => trivial
  | int n => trivial
  | str st =>
    simp only [valAsciiB, Bool.and_eq_true, List.all_eq_true, decide_eq_true_eq] at h1
    exact ⟨fun c hc => h1.1 c hc, h1.2⟩

theorem validation_rows_ascii :
    RowsA AsciiShort (catalogRowsColumns Gen.nameValidation.toList Catalog.validationColumns) ∧
    RowsA AsciiShort [[.str Gen.nameValidation.toList]] ∧
    RowsA AsciiShort (catalogRowsValidation Gen.nameValidation.toList Catalog.validationColumns) := by
  have h : (rowsAsciiB (catalogRowsColumns Gen.nameValidation.toList Catalog.validationColumns) &&
      rowsAsciiB [[.str Gen.nameValidation.toList]] &&
      rowsAsciiB (catalogRowsValidation Gen.nameValidation.toList Catalog.validationColumns)) = true := by
    decide +kernel
  simp only [Bool.and_eq_true] at h
  exact ⟨rowsA_of_check _ h.1.1, rowsA_of_check _ h.1.2, rowsA_of_check _ h.2⟩

/-- the pool of the state `create` builds is fit to be written, whenever short ASCII text is admitted:
the texts of `_Validation`'s own definition are such -/
theorem created_pt (C : Nat → Prop) (A : List Char → Prop) (h0 : A []) (hA : ∀ s, AsciiShort s → A s)
    (ptype : Nat) (summary : PropSet) (hcp : C summary.codepage) (s0 : Pkg)
    (hc : createTable (base ptype summary) Gen.nameValidation.toList Catalog.validationColumns = (s0, .ok ())) :
    PT C A s0.pool := by
  have := createTable_pt C A h0 (base ptype summary) Gen.nameValidation.toList Catalog.validationColumns
    (validation_rows_ascii.1.mono hA) (validation_rows_ascii.2.1.mono hA) (validation_rows_ascii.2.2.mono hA)
    ⟨hcp, fun e he => nomatch he⟩
  rwa [hc] at this

/-- **packages holding ASCII text reopen as they were, with no assumption on the pool**: from the
state `create` builds, after any sequence of calls whose texts are ASCII (statements, create_table,
drop_table, streams, signature, summary, code page, saves, close-and-reopen), a successful save of
a state whose summary is well-formed can be reopened, and the reopened package has the same
container, summary, string pool, table definitions and rows -/
theorem created_ascii_reopens (ptype : Nat) (summary : PropSet) (hcp : summary.codepage < Gen.cpVariants.length)
    (s0 : Pkg)
    (hc : createTable (base ptype summary) Gen.nameValidation.toList Catalog.validationColumns = (s0, .ok ()))
    (steps : List Step) (ha : AdmissibleA s0 steps)
    (hwf : MsiProofs.PropSetCodec.WF (runAll s0 steps).summary) (hfmt : (runAll s0 steps).summary.fmtid = Gen.summaryFmtid)
    (s1 : Pkg) (hf : finish (runAll s0 steps) = (s1, .ok ())) :
    ∃ s2, open_ (some s1.ptype) s1.cont = .ok s2 ∧
      s2.cont = s1.cont ∧ s2.summary = s1.summary ∧ s2.pool = s1.pool ∧ s2.tables = s1.tables ∧
      (∀ t, s2.loadRows t = s1.loadRows t) := by
  obtain ⟨hF0, hN0⟩ := created_full ptype summary s0 hc
  obtain ⟨hadm, hp, -⟩ := historyA _ steps s0 _ hF0 hN0
    (created_pt Supported AsciiShort asciiShort_nil (fun _ h => h) ptype summary hcp s0 hc) ha
  exact created_reopens ptype summary s0 hc steps hadm _ ⟨hwf, hfmt, poolOk_of_pt _ hp⟩ s1 hf

end MsiProofs.AsciiLifecycle
