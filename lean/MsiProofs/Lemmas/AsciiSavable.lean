import MsiProofs.Lemmas.AsciiCodec
import MsiProofs.Lemmas.PoolCodec
import MsiProofs.Lemmas.PropSetCodec
/-
For ASCII text the codec hypotheses of the round-trip theorems hold under every code page, so
"expressible in the format" reduces to structural conditions (no live empty string, counts and
lengths within their fields, well-formed property set).
-/
namespace MsiProofs.AsciiSavable
open MsiModel MsiProofs.AsciiCodec MsiProofs.PoolCodec MsiProofs.PropSetCodec

def IsAscii (s : List Char) : Prop := ∀ c ∈ s, c.toNat < 128

theorem poolOk_ascii (p : Pool) (hcp : p.codepage < Gen.cpVariants.length)
    (hascii : ∀ e ∈ p.strings, IsAscii e.1)
    (hfit : ∀ e ∈ p.strings, e.1.length < 4294967296 ∧ e.2 < 65536 ∧ (e.1 = [] → e.2 = 0)) :
    PoolOk p asciiBytes where
  cp := hcp
  enc := fun e he => (ascii_roundtrip' p.codepage e.1 (hascii e he)).1
  dec := fun e he => (ascii_roundtrip' p.codepage e.1 (hascii e he)).2
  fits := fun e he => by
    obtain ⟨h1, h2, h3⟩ := hfit e he
    refine ⟨by rw [asciiBytes_length]; exact h1, h2, ?_⟩
    intro h0
    rw [asciiBytes_length] at h0
    exact h3 (List.eq_nil_of_length_eq_zero h0)

theorem valOk_ascii (cp : Nat) (s : List Char) (h : IsAscii s) (hl : s.length + 1 < 4294967296) :
    ValOk cp (.lpstr s) :=
  ⟨asciiBytes s, (ascii_roundtrip' cp s h).1, (ascii_roundtrip' cp s h).2, by rw [asciiBytes_length]; exact hl⟩

end MsiProofs.AsciiSavable
