import MsiModel.Res
/-
Inversion of `>>=` in the result monad and of first-failure chains of `if`s: the two steps
with which every proof about a model function that returns `Res` begins.
-/
namespace MsiModel.Res

theorem bind_eq_ok {α β} {x : Res α} {f : α → Res β} {b : β} :
    (x >>= f) = .ok b ↔ ∃ a, x = .ok a ∧ f a = .ok b := by
  cases x <;> simp

theorem bind_eq_err {α β} {x : Res α} {f : α → Res β} {k : ErrKind} :
    (x >>= f) = .err k ↔ x = .err k ∨ ∃ a, x = .ok a ∧ f a = .err k := by
  cases x <;> simp

theorem bind_eq_panic {α β} {x : Res α} {f : α → Res β} {w : String} :
    (x >>= f) = .panic w ↔ x = .panic w ∨ ∃ a, x = .ok a ∧ f a = .panic w := by
  cases x <;> simp

theorem bind_congr {α β} {x : Res α} {f g : α → Res β} (h : ∀ a, x = .ok a → f a = g a) :
    (x >>= f) = (x >>= g) := by
  cases x with
  | ok a => exact h a rfl
  | err k => rfl
  | panic w => rfl

theorem isOk_iff {α} {x : Res α} : x.isOk = true ↔ ∃ a, x = .ok a := by
  cases x <;> simp [isOk]

theorem ofOption_eq_ok {α} {o : Option α} {k : ErrKind} {a : α} : ofOption o k = .ok a ↔ o = some a := by
  cases o <;> simp [ofOption]

end MsiModel.Res

namespace MsiProofs

/-- a refusal chain `if c₁ then some e₁ else if c₂ then some e₂ else … none` passes exactly when
no condition holds: `simp only [f, ite_some_eq_none]` turns `f x = none` into the conjunction -/
theorem ite_some_eq_none {α} {c : Prop} [Decidable c] {a : α} {x : Option α} :
    (if c then some a else x) = none ↔ ¬ c ∧ x = none := by
  by_cases h : c <;> simp [h]

end MsiProofs
