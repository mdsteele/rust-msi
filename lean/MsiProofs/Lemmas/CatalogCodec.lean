import MsiModel.PkgApi
import MsiProofs.Props.C06
import MsiProofs.Props.C07
/-
The catalog rows of a column decode to that column: what `create_table` writes into `_Columns`
and `_Validation` for a storable column is what `open` builds the column from.
-/
namespace MsiProofs.CatalogCodec
open MsiModel MsiModel.Pkg

theorem category_roundtrip : ∀ k ∈ Category.all, ∃ st, k.asStr = some st ∧
    Category.fromStr (String.ofList st.toList) = some k ∧ st.toList ≠ [] := by
  intro k hk
  obtain ⟨st, h1, h2⟩ := C07.category_spelling_roundtrip k hk
  refine ⟨st, h1, by rw [String.ofList_toList]; exact h2, fun he => ?_⟩
  have h0 : Category.fromStr "" = none := by decide +kernel
  rw [String.toList_eq_nil_iff.mp he, h0] at h2
  cases h2

theorem category_all_mem (k : Category) : k ∈ Category.all := by cases k <;> decide

theorem splitOn_intercalate (sep : Char) (parts : List (List Char)) (hne : parts ≠ [])
    (h : ∀ p ∈ parts, sep ∉ p) : Category.splitOn sep (List.intercalate [sep] parts) = parts :=
  C07.splitOn_intercalate sep parts hne h

/-- the `_Validation` row `create_table` writes for one column, as stored ("" is stored as null) -/
def valRow (tn : List Char) (c : Column) : List Value :=
  match catalogRowsValidation tn [c] with
  | [row] => row.map storable
  | _ => []

@[simp] theorem storable_null : storable .null = .null := rfl
@[simp] theorem storable_int (n : Int32) : storable (.int n) = .int n := rfl

theorem storable_str_ne (s : List Char) (h : s ≠ []) : storable (.str s) = .str s := by
  cases s with
  | nil => exact absurd rfl h
  | cons c cs => rfl

theorem valRow_eq (tn : List Char) (c : Column) : valRow tn c =
    [storable (.str tn), storable (.str c.name), storable (.str (if c.isNullable then ['Y'] else ['N'])),
     storable (match c.valueRange with | some (a, _) => .int a | none => .null),
     storable (match c.valueRange with | some (_, b) => .int b | none => .null),
     storable (match c.foreignKey with | some (t, _) => .str t | none => .null),
     storable (match c.foreignKey with | some (_, i) => .int i | none => .null),
     storable (match c.category with
      | some k => match k.asStr with
        | some st => .str st.toList
        | none => .null
      | none => .null),
     storable (if c.enumValues.isEmpty then .null else .str (List.intercalate [';'] c.enumValues)),
     storable .null] := by
  rcases c with ⟨name, ct, loc, nul, key, _ | ⟨a, b⟩, _ | ⟨t, i⟩, cat, en⟩ <;> rfl

theorem val_nullable (tn : List Char) (c : Column) : valNullable (valRow tn c) = c.isNullable := by
  rw [valRow_eq]
  unfold valNullable
  cases c.isNullable <;> rfl

theorem val_range (tn : List Char) (c : Column) : valRange (valRow tn c) = c.valueRange := by
  rw [valRow_eq]
  unfold valRange
  cases c.valueRange with
  | none => rfl
  | some r => obtain ⟨a, b⟩ := r; rfl

theorem val_fk (tn : List Char) (c : Column) (hfk : ∀ t i, c.foreignKey = some (t, i) → t ≠ []) :
    valForeignKey (valRow tn c) = c.foreignKey := by
  rw [valRow_eq]
  unfold valForeignKey
  cases hf : c.foreignKey with
  | none => rfl
  | some r =>
    obtain ⟨t, i⟩ := r
    have := storable_str_ne t (hfk t i hf)
    simp [this]

theorem val_category (tn : List Char) (c : Column) : valCategory (valRow tn c) = c.category := by
  rw [valRow_eq]
  unfold valCategory
  cases hc : c.category with
  | none => rfl
  | some k =>
    obtain ⟨st, h1, h2, h3⟩ := category_roundtrip k (category_all_mem k)
    have := storable_str_ne _ h3
    simp only [h1, List.getD_cons_succ, List.getD_cons_zero, this, h2]

theorem val_enum (tn : List Char) (c : Column) (hs : isStorable c = true) :
    valEnum (valRow tn c) = c.enumValues := by
  rw [valRow_eq]
  unfold valEnum
  cases he : c.enumValues with
  | nil => rfl
  | cons e es =>
    have hok := ((C06.isStorable_iff c).mp hs).2
    have hne : List.intercalate [';'] (e :: es) ≠ [] := by
      have := (hok e (by simp [he])).1
      cases e with
      | nil => exact absurd rfl this
      | cons x xs => cases es <;> simp [List.intercalate]
    have h1 := storable_str_ne _ hne
    have h2 := splitOn_intercalate ';' (e :: es) (by simp) (fun p hp => (hok p (by rw [he]; exact hp)).2)
    simp [h1, h2]

/-- **the catalog rows of a storable column decode to that column**: the builder `open` makes
from the column's `_Validation` row, completed by the type word from `_Columns`, is the column
`create_table` was given — name, type and width, the three flags, value range, foreign key,
category and enumeration -/
theorem column_roundtrip (tn : List Char) (c : Column) (hs : isStorable c = true)
    (hfk : ∀ t i, c.foreignKey = some (t, i) → t ≠ [])
    (specs : List ((List Char × List Char) × List Value))
    (hfind : specs.find? (fun e => e.1 == (tn, c.name)) = some ((tn, c.name), valRow tn c)) :
    (openBuilder specs tn c.name).withBitfield c.bitfield = .ok c := by
  obtain ⟨d, hd, h1, h2, h3, h4, h5, h6, h7, h8, h9⟩ := MsiProofs.C06.typeword_roundtrip c ((C06.isStorable_iff c).mp hs).1
  have hb : openBuilder specs tn c.name =
      { name := c.name, coltype := .int16, isNullable := c.isNullable, valueRange := c.valueRange,
        foreignKey := c.foreignKey, category := c.category, enumValues := c.enumValues } := by
    unfold openBuilder
    rw [hfind]
    simp only [val_nullable, val_range, val_fk tn c hfk, val_category, val_enum tn c hs]
  rw [hb, hd]
  congr 1
  cases c; cases d; simp_all


/-! ### the type word through the `_Columns` cell -/
open MsiModel.Bytes in
theorem ofI32_toI32 (x : Nat) (h : x < 4294967296) : ofI32 (toI32 x) = x := by
  unfold ofI32 toI32
  split
  · rename_i h1
    have : ((x : Int) % 4294967296) = x := Int.emod_eq_of_lt (by omega) (by omega)
    rw [this]; omega
  · rename_i h1
    have : (((x : Int) - 4294967296) % 4294967296) = x := by omega
    rw [this]; omega

theorem ite_or_lt (p : Prop) [Decidable p] {x y : Nat} (hx : x < 65536) (hy : y < 65536) :
    (if p then x ||| y else x) < 65536 := by
  split
  · exact Nat.or_lt_two_pow (n := 16) hx hy
  · exact hx

/-- type bits, the valid bit and the four flags all lie below bit 16 -/
theorem bitfield_lt (c : Column) (hs : isStorable c = true) : c.bitfield < 65536 := by
  have hw := ((C06.isStorable_iff c).mp hs).1
  have htb : Column.typeBits c.coltype < 65536 := by
    cases hc : c.coltype with
    | int16 => decide
    | int32 => decide
    | str n =>
      rw [hc] at hw
      exact Nat.or_lt_two_pow (n := 16) (by decide) (show n % 4294967296 < 65536 by omega)
  unfold Column.bitfield
  exact ite_or_lt _ (ite_or_lt _ (ite_or_lt _ (ite_or_lt _
    (Nat.or_lt_two_pow (n := 16) htb (by decide)) (by decide)) (by decide)) (by decide)) (by decide)

open MsiModel.Bytes in
/-- the 32-bit cell of `_Columns.Type` for a column -/
def bitsOf (c : Column) : Int32 := Int32.ofInt (toI32 (c.bitfield % 4294967296))

theorem bitfieldValue_eq (c : Column) : bitfieldValue c = .int (bitsOf c) := rfl

open MsiModel.Bytes in
theorem bitsOf_word (c : Column) (hs : isStorable c = true) : ofI32 (bitsOf c).toInt = c.bitfield := by
  have h := bitfield_lt c hs
  have hlt : c.bitfield % 4294967296 < 4294967296 := Nat.mod_lt _ (by decide)
  have hr : -2 ^ 31 ≤ toI32 (c.bitfield % 4294967296) ∧ toI32 (c.bitfield % 4294967296) < 2 ^ 31 := by
    unfold toI32
    split <;> omega
  rw [bitsOf, Int32.toInt_ofInt_of_le hr.1 hr.2, ofI32_toI32 _ hlt, Nat.mod_eq_of_lt (by omega)]

/-- a column `create_table` accepts as far as the catalog codec is concerned -/
def ColOk (c : Column) : Prop := isStorable c = true ∧ ∀ t i, c.foreignKey = some (t, i) → t ≠ []

/-- **the columns of a table are rebuilt from its catalog rows**: given the `_Columns` entries
numbered `i0, i0+1, …` with the columns' names and type words, and the columns' `_Validation`
rows, the loop of `open` returns exactly the columns, in order -/
theorem openColumns_spec (tn : List Char) (cols : List Column)
    (specs : List (List Char × Nat × List Char × Int32))
    (valSpecs : List ((List Char × List Char) × List Value)) :
    ∀ (i0 : Nat) (acc : List Column),
    (∀ c ∈ cols, ColOk c) →
    (∀ j (hj : j < cols.length), ∃ x, specs.find? (fun e => e.2.1 == i0 + j) = some (x, i0 + j, cols[j].name, bitsOf cols[j])) →
    (∀ c ∈ cols, valSpecs.find? (fun e => e.1 == (tn, c.name)) = some ((tn, c.name), valRow tn c)) →
    openColumns specs valSpecs tn cols.length i0 acc = .ok (acc.reverse ++ cols) := by
  induction cols with
  | nil => intro i0 acc _ _ _; simp [openColumns, pure]
  | cons c rest ih =>
    intro i0 acc hok hspec hval
    obtain ⟨x, h0⟩ := hspec 0 (by simp)
    simp only [Nat.add_zero, List.getElem_cons_zero] at h0
    simp only [List.length_cons, openColumns, h0, bind, Res.bind]
    have hc := hok c (by simp)
    rw [bitsOf_word c hc.1, column_roundtrip tn c hc.1 hc.2 valSpecs (hval c (by simp))]
    simp only
    rw [ih (i0 + 1) (c :: acc) (fun d hd => hok d (by simp [hd]))
      (by
        intro j hj
        obtain ⟨y, hy⟩ := hspec (j + 1) (by simp; omega)
        refine ⟨y, ?_⟩
        have e : i0 + (j + 1) = i0 + 1 + j := by omega
        rw [e] at hy
        simpa using hy)
      (fun d hd => hval d (by simp [hd]))]
    simp

end MsiProofs.CatalogCodec
