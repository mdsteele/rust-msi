import MsiProofs.Lemmas.EndToEnd
/-
The catalog invariant in membership form — easy to maintain through `create_table` — and the bridge
to the form the decode theorem needs.
-/
namespace MsiProofs.CatalogRows
open MsiModel MsiModel.Bytes MsiModel.Pkg MsiProofs.CatalogOpen MsiProofs.CatalogCodec MsiProofs.CatalogSync
open MsiProofs.GlobalInv MsiProofs.SortedInv

/-- the value rows `create_table` writes into `_Columns` for a table -/
def colRowsOf (t : Table) : List (List Value) :=
  (entriesOf t).map fun e => [.str e.1, .int (Int32.ofNat e.2.1), .str e.2.2.1, .int e.2.2.2]

/-- the value rows `create_table` writes into `_Validation` for a table (as stored) -/
def valRowsOf (t : Table) : List (List Value) := t.columns.map (valRow t.name)

/-- the catalog tables of `s`, read as values, hold exactly the rows of the definitions `tabs` -/
structure Rows (s : Pkg) (tabs : List Table) : Prop where
  rowsT : ∃ tRows, s.loadRows (Catalog.tablesTable s.pool.longRefs) = .ok tRows ∧
    ∀ v, v ∈ tRows.map (rowValues s.pool) ↔ ∃ t ∈ tabs, v = [Value.str t.name]
  rowsC : ∃ cRows, s.loadRows (Catalog.columnsTable s.pool.longRefs) = .ok cRows ∧
    ∀ v, v ∈ cRows.map (rowValues s.pool) ↔ ∃ t ∈ tabs, v ∈ colRowsOf t
  rowsV : ∃ vRows, s.loadRows (Catalog.validationTable s.pool.longRefs) = .ok vRows ∧
    ∀ v, v ∈ vRows.map (rowValues s.pool) ↔ ∃ t ∈ tabs, v ∈ valRowsOf t

theorem values_nodup (p : Pool) (t : Table) (rows : List (List Cell)) (h : KeysAscending p t rows) :
    (rows.map (rowValues p)).Nodup := by
  unfold KeysAscending at h
  rw [List.pairwise_map] at h
  exact List.pairwise_map.mpr (h.imp fun hab e => by rw [e, MsiProofs.Order.keyLt_irrefl] at hab; cases hab)

/-! ### decoding the value rows -/

def strOf : Value → List Char
  | .str s => s
  | _ => []

def entryOfRow (v : List Value) : List Char × Nat × List Char × Int32 := (colEntry v).getD default

theorem ofNat_toNat (n : Nat) (h : n < 2147483648) : (Int32.ofNat n).toInt.toNat = n ∧ 0 ≤ (Int32.ofNat n).toInt := by
  have : (Int32.ofNat n).toInt = (n : Int) := by
    rw [Int32.toInt_ofNat_of_lt (by omega)]
  rw [this]
  exact ⟨by omega, by omega⟩

theorem colEntry_row (e : List Char × Nat × List Char × Int32) (h : e.2.1 < 2147483648) :
    colEntry [.str e.1, .int (Int32.ofNat e.2.1), .str e.2.2.1, .int e.2.2.2] = some e := by
  obtain ⟨a, b, c, d⟩ := e
  simp only [colEntry, List.getD_cons_zero, List.getD_cons_succ]
  rw [(ofNat_toNat b h).1]

theorem mem_colRowsOf (t : Table) (v : List Value) : v ∈ colRowsOf t ↔
    ∃ e ∈ entriesOf t, v = [.str e.1, .int (Int32.ofNat e.2.1), .str e.2.2.1, .int e.2.2.2] := by
  unfold colRowsOf
  simp only [List.mem_map]
  constructor
  · rintro ⟨e, he, rfl⟩; exact ⟨e, he, rfl⟩
  · rintro ⟨e, he, rfl⟩; exact ⟨e, he, rfl⟩

theorem entry_small (t : Table) (hs : t.columns.length < 2147483647) (e) (he : e ∈ entriesOf t) : e.2.1 < 2147483648 := by
  obtain ⟨j, hj, rfl⟩ := (mem_entriesOf t e).mp he
  simp only
  omega

theorem map_flatMap_of_forall {α β γ} {l : List α} {f : α → List β} {g : β → γ} {h : α → List γ}
    (hh : ∀ a ∈ l, (f a).map g = h a) : (l.flatMap f).map g = l.flatMap h := by
  induction l with
  | nil => rfl
  | cons a l ih =>
    rw [List.flatMap_cons, List.flatMap_cons, List.map_append, hh a List.mem_cons_self,
      ih fun x hx => hh x (List.mem_cons_of_mem _ hx)]

theorem colRows_decode (tabs : List Table) (hs : ∀ t ∈ tabs, t.columns.length < 2147483647) :
    (tabs.flatMap colRowsOf).map entryOfRow = tabs.flatMap entriesOf := by
  refine map_flatMap_of_forall fun t ht => ?_
  unfold colRowsOf
  rw [List.map_map]
  conv => rhs; rw [← List.map_id (entriesOf t)]
  apply List.map_congr_left
  intro e he
  simp only [Function.comp, entryOfRow, colEntry_row e (entry_small t (hs t ht) e he), Option.getD_some, id]

/-- the key of a `_Validation` value row -/
def keyOfV (v : List Value) : List Char × List Char := (strOf (v.getD 0 .null), strOf (v.getD 1 .null))

theorem keyOfV_valRow (tn : List Char) (c : Column) (h1 : tn ≠ []) (h2 : c.name ≠ []) :
    keyOfV (valRow tn c) = (tn, c.name) ∧
    (valRow tn c).getD 0 .null = .str tn ∧ (valRow tn c).getD 1 .null = .str c.name := by
  rw [valRow_eq]
  simp only [keyOfV, List.getD_cons_zero, List.getD_cons_succ, storable_str_ne tn h1, storable_str_ne c.name h2, strOf]
  exact ⟨trivial, trivial, trivial⟩

/-- names are not empty (they are identifiers) -/
def NamesOk (tabs : List Table) : Prop := ∀ t ∈ tabs, t.name ≠ [] ∧ ∀ c ∈ t.columns, c.name ≠ []

theorem valRows_decode (tabs : List Table) (hn : NamesOk tabs) :
    (tabs.flatMap valRowsOf).map (fun v => (keyOfV v, v)) = tabs.flatMap valsOf := by
  refine map_flatMap_of_forall fun t ht => ?_
  unfold valRowsOf valsOf
  rw [List.map_map]
  apply List.map_congr_left
  intro c hc
  have := (keyOfV_valRow t.name c (hn t ht).1 ((hn t ht).2 c hc)).1
  simp only [Function.comp, this]


/-! ### the bridge -/

theorem nodup_of_map {α β} (f : α → β) (l : List α) (h : (l.map f).Nodup) : l.Nodup :=
  List.Pairwise.of_map f (fun _ _ h e => h (congrArg f e)) h

theorem perm_decode {α} (dec : List Value → α) {vals L : List (List Value)} (hnd : vals.Nodup)
    (hL : (L.map dec).Nodup) (hm : ∀ v, v ∈ vals ↔ v ∈ L) : (vals.map dec).Perm (L.map dec) :=
  ((List.perm_ext_iff_of_nodup hnd (nodup_of_map dec L hL)).mpr hm).map dec

/-- **membership form ⇒ the form the decode theorem needs** -/
theorem synced_of_rows (s : Pkg) (tabs : List Table) (hR : Rows s tabs) (hS : SortedAll s)
    (hmem : ∀ t ∈ catalogTables s.pool.longRefs, t ∈ s.tables)
    (htables : s.tables = insertTable (insertTable tabs (Catalog.tablesTable s.pool.longRefs))
      (Catalog.columnsTable s.pool.longRefs))
    (hsorted : NameSorted tabs) (hnames : (tabs.map fun (t : Table) => t.name).Nodup)
    (hok : ∀ t ∈ tabs, (∀ c ∈ t.columns, ColOk c) ∧ t.columns ≠ [] ∧ t.longRefs = s.pool.longRefs ∧
      (t.columns.map fun (c : Column) => c.name).Nodup)
    (hsmall : ∀ t ∈ tabs, t.columns.length < 2147483647) (hn : NamesOk tabs) : CatalogSynced s tabs := by
  obtain ⟨tRows, hlT, hmT⟩ := hR.rowsT
  obtain ⟨cRows, hlC, hmC⟩ := hR.rowsC
  obtain ⟨vRows, hlV, hmV⟩ := hR.rowsV
  have hndT := values_nodup s.pool _ tRows (hS _ (hmem _ (by simp [catalogTables])) tRows hlT)
  have hndC := values_nodup s.pool _ cRows (hS _ (hmem _ (by simp [catalogTables])) cRows hlC)
  have hndV := values_nodup s.pool _ vRows (hS _ (hmem _ (by simp [catalogTables])) vRows hlV)
  have eT : (tabs.map fun (t : Table) => [Value.str t.name]).map (fun v => strOf (v.getD 0 .null)) =
      tabs.map fun (t : Table) => t.name := by
    rw [List.map_map]; rfl
  have hpT := perm_decode (fun v => strOf (v.getD 0 .null)) hndT (eT ▸ hnames) (fun v => by
    rw [hmT v]
    simp only [List.mem_map]
    exact ⟨fun ⟨t, ht, e⟩ => ⟨t, ht, e.symm⟩, fun ⟨t, ht, e⟩ => ⟨t, ht, e.symm⟩⟩)
  have hpC := perm_decode entryOfRow hndC (by
    rw [colRows_decode tabs hsmall]; exact entries_nodup tabs hnames |> nodup_of_map _ _)
    (fun v => by rw [hmC v]; simp only [List.mem_flatMap])
  have hpV := perm_decode (fun v => (keyOfV v, v)) hndV (by
    rw [valRows_decode tabs hn]; exact nodup_of_map _ _ (valkeys_nodup tabs hnames (fun t ht => (hok t ht).2.2.2)))
    (fun v => by rw [hmV v]; simp only [List.mem_flatMap])
  rw [eT] at hpT
  rw [colRows_decode tabs hsmall] at hpC
  rw [valRows_decode tabs hn] at hpV
  refine ⟨htables, hsorted, hnames, hok, ?_, ?_, ?_⟩
  · refine ⟨tRows, (tRows.map (rowValues s.pool)).map (fun v => strOf (v.getD 0 .null)), hlT, ?_, ?_⟩
    · rw [List.map_map, List.map_map]
      apply List.map_congr_left
      intro r hr
      obtain ⟨t, -, hv⟩ := (hmT _).mp (List.mem_map.mpr ⟨r, hr, rfl⟩)
      simp only [Function.comp, hv, List.getD_cons_zero, strOf]
    · exact hpT
  · refine ⟨cRows, (cRows.map (rowValues s.pool)).map entryOfRow, hlC, ?_, ?_, ?_⟩
    · rw [List.map_map, List.map_map]
      apply List.map_congr_left
      intro r hr
      obtain ⟨t, ht, hv⟩ := (hmC _).mp (List.mem_map.mpr ⟨r, hr, rfl⟩)
      obtain ⟨e, he, hve⟩ := (mem_colRowsOf t _).mp hv
      simp only [Function.comp, entryOfRow, hve, colEntry_row e (entry_small t (hsmall t ht) e he), Option.getD_some]
    · exact hpC
    · intro r hr idx hidx
      obtain ⟨t, ht, hv⟩ := (hmC _).mp (List.mem_map.mpr ⟨r, hr, rfl⟩)
      obtain ⟨e, he, hve⟩ := (mem_colRowsOf t _).mp hv
      rw [hve] at hidx
      simp only [List.getD_cons_succ, List.getD_cons_zero, Value.int.injEq] at hidx
      rw [← hidx]
      exact (ofNat_toNat e.2.1 (entry_small t (hsmall t ht) e he)).2
  · refine ⟨vRows, (vRows.map (rowValues s.pool)).map keyOfV, hlV, ?_, ?_⟩
    · rw [List.map_map, List.map_map]
      apply List.map_congr_left
      intro r hr
      obtain ⟨t, ht, hv⟩ := (hmV _).mp (List.mem_map.mpr ⟨r, hr, rfl⟩)
      unfold valRowsOf at hv
      obtain ⟨c, hc, hvc⟩ := List.mem_map.mp hv
      obtain ⟨h1, h2, h3⟩ := keyOfV_valRow t.name c (hn t ht).1 ((hn t ht).2 c hc)
      simp only [Function.comp, ← hvc, h1, h2, h3]
    · have h1 : ((vRows.map (rowValues s.pool)).map keyOfV).zip (vRows.map (rowValues s.pool)) =
          (vRows.map (rowValues s.pool)).map (fun v => (keyOfV v, v)) := by
        generalize vRows.map (rowValues s.pool) = l
        induction l with
        | nil => rfl
        | cons a rest ih => simp [ih]
      rw [h1]
      exact hpV

end MsiProofs.CatalogRows
