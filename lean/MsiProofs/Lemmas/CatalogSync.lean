import MsiProofs.Lemmas.CatalogOpen
import MsiProofs.Lemmas.SortUpd
import MsiProofs.Lemmas.Frame
/-
The catalog as an invariant: the three catalog tables hold exactly the rows of the user tables'
definitions, so that `open` on the container rebuilds the in-memory table list.
-/
namespace MsiProofs.CatalogSync
open MsiModel MsiModel.Bytes MsiModel.Pkg MsiProofs.CatalogOpen MsiProofs.CatalogCodec MsiProofs.GlobalInv
open MsiProofs.SaveOpen MsiProofs.RefineExact MsiProofs.RefineDelete MsiProofs.Refine MsiProofs.RowsOk

/-- the catalog tables of `s` hold (in any order) the rows of the definitions `tabs`, and the
in-memory table list is `tabs` plus the two built-in catalog tables -/
structure CatalogSynced (s : Pkg) (tabs : List Table) : Prop where
  tables : s.tables = insertTable (insertTable tabs (Catalog.tablesTable s.pool.longRefs))
    (Catalog.columnsTable s.pool.longRefs)
  sorted : NameSorted tabs
  names : (tabs.map fun (t : Table) => t.name).Nodup
  ok : ∀ t ∈ tabs, (∀ c ∈ t.columns, ColOk c) ∧ t.columns ≠ [] ∧ t.longRefs = s.pool.longRefs ∧
    (t.columns.map fun (c : Column) => c.name).Nodup
  rowsT : ∃ (tRows : List (List Cell)) (names' : List (List Char)), s.loadRows (Catalog.tablesTable s.pool.longRefs) = .ok tRows ∧
    tRows.map (fun r => (rowValues s.pool r).getD 0 .null) = names'.map Value.str ∧
    names'.Perm (tabs.map fun (t : Table) => t.name)
  rowsC : ∃ (cRows : List (List Cell)) (entries' : List (List Char × Nat × List Char × Int32)), s.loadRows (Catalog.columnsTable s.pool.longRefs) = .ok cRows ∧
    cRows.map (fun r => colEntry (rowValues s.pool r)) = entries'.map some ∧
    entries'.Perm (tabs.flatMap entriesOf) ∧
    (∀ r ∈ cRows, ∀ idx, (rowValues s.pool r).getD 1 .null = .int idx → 0 ≤ idx.toInt)
  rowsV : ∃ (vRows : List (List Cell)) (keys' : List (List Char × List Char)), s.loadRows (Catalog.validationTable s.pool.longRefs) = .ok vRows ∧
    vRows.map (fun r => ((rowValues s.pool r).getD 0 .null, (rowValues s.pool r).getD 1 .null)) =
      keys'.map (fun k => (Value.str k.1, Value.str k.2)) ∧
    (keys'.zip (vRows.map (rowValues s.pool))).Perm (tabs.flatMap valsOf)

/-- **with the catalog in sync, the catalog pass of `open` returns the in-memory table list** -/
theorem synced_open (s : Pkg) (tabs : List Table) (h : CatalogSynced s tabs) :
    openTables s.ptype s.cont s.summary s.pool = .ok s.tables := by
  obtain ⟨tRows, names', h1, h2, h3⟩ := h.rowsT
  obtain ⟨cRows, entries', h4, h5, h6, h7⟩ := h.rowsC
  obtain ⟨vRows, keys', h8, h9, h10⟩ := h.rowsV
  rw [h.tables]
  exact openTables_of_catalog s.ptype s.cont s.summary s.pool tabs h.sorted h.names h.ok tRows cRows vRows
    h1 h4 h8 names' h2 h3 entries' h5 h6 h7 keys' h9 h10

/-- **C01, closed on the model**: with the metadata `Saved` and the catalog in sync, reopening
yields a package with the same container, summary, pool AND table definitions -/
theorem reopen_same_tables (s : Pkg) (tabs : List Table) (hsaved : Saved s) (hcat : CatalogSynced s tabs) :
    ∃ s2, open_ (some s.ptype) s.cont = .ok s2 ∧
      s2.cont = s.cont ∧ s2.summary = s.summary ∧ s2.pool = s.pool ∧ s2.tables = s.tables := by
  have hcore := openCore_of_saved s s.ptype hsaved
  rw [synced_open s tabs hcat] at hcore
  refine ⟨⟨s.ptype, s.cont, s.summary, false, s.pool, s.tables, false⟩, ?_, rfl, rfl, rfl, rfl⟩
  unfold open_
  rw [hcore]
  rfl


/-- the three catalog tables (for the reference width in use) -/
def catalogTables (long : Bool) : List Table :=
  [Catalog.tablesTable long, Catalog.columnsTable long, Catalog.validationTable long]

/-- the names of the three catalog tables -/
def isCatalogName (n : List Char) : Bool :=
  n == Gen.nameTables.toList || n == Gen.nameColumns.toList || n == Gen.nameValidation.toList

/-- **transfer**: a state that reads the three catalog tables as the same rows with the same
values, and has the same table list and reference width, is in sync with the same definitions -/
theorem catalogSynced_transfer (s s' : Pkg) (tabs : List Table) (h : CatalogSynced s tabs)
    (htabs : s'.tables = s.tables) (hlong : s'.pool.longRefs = s.pool.longRefs)
    (hrows : ∀ t ∈ catalogTables s.pool.longRefs, s'.loadRows t = s.loadRows t)
    (hvals : ∀ t ∈ catalogTables s.pool.longRefs, ∀ rows, s.loadRows t = .ok rows →
      ∀ r ∈ rows, rowValues s'.pool r = rowValues s.pool r) : CatalogSynced s' tabs := by
  obtain ⟨tRows, names', h1, h2, h3⟩ := h.rowsT
  obtain ⟨cRows, entries', h4, h5, h6, h7⟩ := h.rowsC
  obtain ⟨vRows, keys', h8, h9, h10⟩ := h.rowsV
  -- whatever is computed from the values of these rows is the same under either pool
  have hm : ∀ t ∈ catalogTables s.pool.longRefs, ∀ rows, s.loadRows t = .ok rows → ∀ {β} (f : List Value → β),
      rows.map (fun r => f (rowValues s'.pool r)) = rows.map (fun r => f (rowValues s.pool r)) :=
    fun t ht rows hl _ f => List.map_congr_left fun r hr => by rw [hvals t ht rows hl r hr]
  have mT : Catalog.tablesTable s.pool.longRefs ∈ catalogTables s.pool.longRefs := by simp [catalogTables]
  have mC : Catalog.columnsTable s.pool.longRefs ∈ catalogTables s.pool.longRefs := by simp [catalogTables]
  have mV : Catalog.validationTable s.pool.longRefs ∈ catalogTables s.pool.longRefs := by simp [catalogTables]
  exact ⟨by rw [htabs, hlong]; exact h.tables, h.sorted, h.names, by rw [hlong]; exact h.ok,
    ⟨tRows, names', by rw [hlong, hrows _ mT]; exact h1, (hm _ mT tRows h1 fun v => v.getD 0 .null).trans h2, h3⟩,
    ⟨cRows, entries', by rw [hlong, hrows _ mC]; exact h4, (hm _ mC cRows h4 colEntry).trans h5, h6,
      fun r hr idx hidx => h7 r hr idx (hvals _ mC cRows h4 r hr ▸ hidx)⟩,
    ⟨vRows, keys', by rw [hlong, hrows _ mV]; exact h8, (hm _ mV vRows h8 fun v => (v.getD 0 .null, v.getD 1 .null)).trans h9,
      (hm _ mV vRows h8 id) ▸ h10⟩⟩

theorem catalog_facts (long : Bool) : ∀ t ∈ catalogTables long,
    MsiProofs.Synced.NotMeta t.streamName ∧ isCatalogName t.name = true := by
  unfold MsiProofs.Synced.NotMeta
  cases long <;> decide

theorem catalog_notMeta (long : Bool) : ∀ t ∈ catalogTables long, MsiProofs.Synced.NotMeta t.streamName :=
  fun t ht => (catalog_facts long t ht).1

theorem finish_frame (s : Pkg) :
    ((finish s).1.pool.strings = s.pool.strings ∧ (finish s).1.pool.longRefs = s.pool.longRefs) ∧
    ∀ n, MsiProofs.Synced.NotMeta n → dataOf (finish s).1.cont n = dataOf s.cont n := by
  obtain ⟨puts, _, _, h, hp, -⟩ := MsiProofs.Exec.finish_fst s
  rw [h]
  refine ⟨⟨rfl, rfl⟩, fun n hn => MsiProofs.Synced.dataOf_foldl_put puts n (fun x hx => ?_) _⟩
  rcases hp x hx with e | e | e <;> rw [e]
  · exact Ne.symm hn.2.2
  · exact Ne.symm hn.1
  · exact Ne.symm hn.2.1

theorem rowValues_of_strings {p p' : Pool} (h : p'.strings = p.strings) (r : List Cell) :
    rowValues p' r = rowValues p r := by
  unfold rowValues
  apply List.map_congr_left
  intro c _
  cases c with
  | str q => simp only [Cell.toValue, Pool.get, h]
  | null => rfl
  | int n => rfl

/-- **a successful save keeps the catalog in sync** (it writes only the metadata streams) -/
theorem finish_catalogSynced (s s' : Pkg) (tabs : List Table) (h : CatalogSynced s tabs)
    (hf : finish s = (s', .ok ())) : CatalogSynced s' tabs := by
  obtain rfl : s' = (finish s).1 := by rw [hf]
  obtain ⟨⟨hstr, hlong⟩, hframe⟩ := finish_frame s
  exact catalogSynced_transfer s _ tabs h (MsiProofs.Synced.finish_tables s) hlong
    (fun t ht => loadRows_congr s _ t (hframe _ (catalog_notMeta _ t ht)))
    (fun _ _ _ _ r _ => rowValues_of_strings hstr r)


/-! ### statements on user tables keep the catalog in sync -/

theorem mem_insertTable_self (ts : List Table) (t : Table) : t ∈ insertTable ts t := by
  induction ts with
  | nil => exact List.mem_singleton.mpr rfl
  | cons x rest ih =>
    simp only [insertTable]
    split
    · exact List.mem_cons_self
    · split
      · exact List.mem_cons_self
      · exact List.mem_cons_of_mem _ ih

theorem mem_insertTable_of_mem (ts : List Table) (t x : Table) (hx : x ∈ ts) (hne : x.name ≠ t.name) :
    x ∈ insertTable ts t := by
  induction ts with
  | nil => cases hx
  | cons y rest ih =>
    simp only [insertTable]
    split
    · exact List.mem_cons_of_mem _ hx
    · split
      · rename_i heq
        rcases List.mem_cons.mp hx with rfl | hx
        · exact absurd (beq_iff_eq.mp heq).symm hne
        · exact List.mem_cons_of_mem _ hx
      · exact (List.mem_cons.mp hx).elim (fun e => e ▸ List.mem_cons_self) fun h => List.mem_cons_of_mem _ (ih h)

theorem catalog_mem (s : Pkg) (tabs : List Table) (h : CatalogSynced s tabs)
    (hv : Catalog.validationTable s.pool.longRefs ∈ tabs) : ∀ t ∈ catalogTables s.pool.longRefs, t ∈ s.tables := by
  intro t ht
  rw [h.tables]
  simp only [catalogTables, List.mem_cons, List.mem_nil_iff, or_false] at ht
  rcases ht with rfl | rfl | rfl
  · exact mem_insertTable_of_mem _ _ _ (mem_insertTable_self _ _) (by cases s.pool.longRefs <;> decide)
  · exact mem_insertTable_self _ _
  · refine mem_insertTable_of_mem _ _ _ (mem_insertTable_of_mem _ _ _ hv ?_) ?_ <;>
      cases s.pool.longRefs <;> decide

/-- **an insert, update or delete on a table other than the catalog tables — accepted or refused —
keeps the catalog in sync** -/
theorem op_catalogSynced (slack : Nat → Nat) (s : Pkg) (tabs : List Table) (hI : Inv slack s)
    (h : CatalogSynced s tabs) (hv : Catalog.validationTable s.pool.longRefs ∈ tabs)
    (op : MsiProofs.GlobalInvUpd.Op)
    (hname : isCatalogName (MsiProofs.Frame.target op) = false) :
    CatalogSynced (op.run s) tabs := by
  have hk := MsiProofs.Frame.op_kept slack s hI op
  have hmem := catalog_mem s tabs h hv
  have hne : ∀ t ∈ catalogTables s.pool.longRefs, t.name ≠ MsiProofs.Frame.target op := by
    intro t ht e
    have := (catalog_facts _ t ht).2
    rw [e, hname] at this
    cases this
  exact catalogSynced_transfer s _ tabs h hk.tables hk.long
    (fun t ht => hk.rows t (hmem t ht) (hne t ht))
    (fun t ht rows hl r hr => hk.vals t (hmem t ht) (hne t ht) rows hl r hr)

end MsiProofs.CatalogSync
