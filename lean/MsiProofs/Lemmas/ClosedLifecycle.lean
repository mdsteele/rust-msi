import MsiProofs.Lemmas.Lifecycle2
import MsiProofs.Lemmas.SummaryInv
import MsiProofs.Lemmas.Exec
/-
The whole-life theorem with every hypothesis discharged (properties C01, C10, C04, C05, C08): for
a package made by `Package::create` under the UTF-8 code page and ANY sequence of calls —
statements on user tables, `create_table`, `drop_table`, stream writes and removals, signature
removal, the summary setters and clearers covered by `SumOp`, `set_database_codepage(UTF-8)`,
saves, and close-and-reopen when nothing is pending — with arbitrary Unicode text, as long as no
call hits the string pool's capacity panic (finding D16b) and encoded strings stay below the
format's length fields: EVERY save succeeds, and the saved container reopens as the package it
was — same container, summary information, string pool, table definitions and rows.
-/
namespace MsiProofs.ClosedLifecycle
open MsiModel MsiModel.Bytes MsiModel.Pkg MsiProofs.GlobalInv MsiProofs.SortedInv MsiProofs.Frame
open MsiProofs.SaveOpen MsiProofs.CreateTable MsiProofs.FullHistory MsiProofs.Created MsiProofs.Lifecycle
open MsiProofs.ValidCells MsiProofs.RelationalLife MsiProofs.Lifecycle2 MsiProofs.PoolText MsiProofs.AsciiLifecycle
open MsiProofs.Utf8Lifecycle MsiProofs.SummaryInv MsiProofs.PoolCodec MsiProofs.PropSetCodec

/-- everything the library maintains -/
structure All (slack : Nat → Nat) (s : Pkg) (tabs : List Table) : Prop where
  full : Full slack s tabs
  noOrphans : NoOrphans s
  valid : ValidAll s
  pool : PT IsUtf8 Utf8Short s.pool
  summary : SumInv s.summary

/-- the calls covered; nothing is assumed about their outcome except "no capacity panic" -/
def StepC (s : Pkg) : Step → Prop
  | .dml op => MsiProofs.EndToEnd.UserOp op ∧ StepA IsUtf8 Utf8Short (.dml op)
  | .create n c => (∀ w, (createTable s n c).2 ≠ .panic w) ∧ StepA IsUtf8 Utf8Short (.create n c)
  | .drop _ => True
  | .writeStream _ _ => True
  | .removeStream _ => True
  | .removeSignature => True
  | .setSummary f => (∃ op : SumOp, op.Ok ∧ f = op.apply) ∨ (∃ op : TemplOp, op.OkIn s.summary ∧ f = op.apply)
  | .setCodepage cp => IsUtf8 cp
  | .save => True
  | .reopen => s.summaryModified = false ∧ s.pool.modified = false

def AdmissibleC : Pkg → List Step → Prop
  | _, [] => True
  | s, st :: rest => StepC s st ∧ AdmissibleC (st.run s) rest

theorem savable_of_all {slack : Nat → Nat} {s : Pkg} {tabs : List Table} (h : All slack s tabs) :
    Savable s utf8Bytes :=
  ⟨(sumInv_wf s.summary h.summary).1, (sumInv_wf s.summary h.summary).2, poolOk_utf8 s.pool h.pool⟩

/-- **a state that can be written is written**: the finisher succeeds -/
theorem finish_ok (s : Pkg) (E : List Char → Bytes) (hs : Savable s E) : (finish s).2 = .ok () := by
  obtain ⟨sb, hsw, -⟩ := propset_roundtrip s.summary hs.summary
  obtain ⟨pb, db, hpw, hdw, -⟩ := pool_roundtrip s.pool E hs.pool
  unfold finish
  cases hsm : s.summaryModified <;> cases hpm : s.pool.modified <;>
    simp only [hsm, hpm, hsw, hpw, hdw, if_true, if_false, Bool.false_eq_true]

theorem flush_ok (s : Pkg) (E : List Char → Bytes) (hs : Savable s E) : (flush s).2 = .ok () := by
  unfold flush
  split
  · exact finish_ok _ E ⟨hs.summary, hs.fmtid, hs.pool⟩
  · rfl

theorem saved_of_stepC {slack : Nat → Nat} {s : Pkg} {tabs : List Table} (h : All slack s tabs) {st : Step}
    (hc : StepC s st) (e : st = .reopen) : Saved s := by
  subst e
  exact ⟨h.full.core.metaSync.summary hc.1, h.full.core.metaSync.pool hc.2⟩

theorem admissible_of_stepC (slack : Nat → Nat) (s : Pkg) (tabs : List Table) (h : All slack s tabs) (st : Step)
    (hc : StepC s st) : AdmissibleW1 s st := by
  cases st with
  | dml op => exact hc.1
  | create n c => exact hc.1
  | save => exact ⟨flush_ok s utf8Bytes (savable_of_all h), utf8Bytes, savable_of_all h⟩
  | reopen => exact saved_of_stepC h hc rfl
  | _ => trivial

theorem summary_after (slack : Nat → Nat) (s : Pkg) (tabs : List Table) (h : All slack s tabs) (st : Step)
    (hc : StepC s st) : SumInv (st.run s).summary := by
  have hsep := h.full.core.sep
  cases ho : Step.isOther st with
  | false =>
    have : (st.run s).summary = s.summary := by
      cases st with
      | dml op => exact (MsiProofs.EndToEnd.effect_of_op { s with finisher := true } hsep op).1.summary
      | create n c => exact (MsiProofs.Synced.good_createTable s hsep n c).effect.summary
      | drop n => exact (MsiProofs.Synced.good_dropTable s hsep n).effect.summary
      | _ => cases ho
    rw [this]; exact h.summary
  | true =>
    by_cases hset : ∃ f, st = .setSummary f
    · obtain ⟨f, rfl⟩ := hset
      rcases hc with ⟨op, hok, rfl⟩ | ⟨op, hok, rfl⟩
      · exact sumInv_apply s.summary h.summary op hok
      · exact sumInv_templ s.summary h.summary op hok
    · rw [(run_other h.full st ho (saved_of_stepC h hc)).2.2.2.1 fun f e => hset ⟨f, e⟩]
      exact h.summary

theorem stepA_of_stepC {s : Pkg} {st : Step} (hc : StepC s st) : StepA IsUtf8 Utf8Short st := by
  cases st with
  | dml op => exact hc.2
  | create n c => exact hc.2
  | setCodepage cp => exact hc
  | _ => trivial

/-- **one covered call keeps everything** -/
theorem step_closed (slack : Nat → Nat) (s : Pkg) (tabs : List Table) (h : All slack s tabs) (st : Step)
    (hc : StepC s st) : ∃ tabs', All slack (st.run s) tabs' := by
  obtain ⟨tabs', hF, hN, hV⟩ := step_all slack s tabs h.full h.noOrphans h.valid st
    (admissible_of_stepC slack s tabs h st hc)
  exact ⟨tabs', hF, hN, hV,
    step_pt' IsUtf8 Utf8Short utf8Short_nil h.full st (saved_of_stepC h hc) (stepA_of_stepC hc) h.pool,
    summary_after slack s tabs h st hc⟩

/-- **every reachable state keeps everything** -/
theorem history_closed (slack : Nat → Nat) (steps : List Step) : ∀ (s : Pkg) (tabs : List Table),
    All slack s tabs → AdmissibleC s steps → ∃ tabs', All slack (runAll s steps) tabs' :=
  fun s tabs h ha => runAll_keeps (I := fun s => ∃ tabs, All slack s tabs) (Adm := AdmissibleC) (fun _ _ _ h => h)
    (fun s st ⟨tabs, h⟩ hc => step_closed slack s tabs h st hc) steps s ⟨tabs, h⟩ ha

/-- **in a state that keeps everything a save succeeds**, and the saved container reopens as the
same package -/
theorem all_reopens {slack : Nat → Nat} {s : Pkg} {tabs : List Table} (h : All slack s tabs) :
    ∃ s1, finish s = (s1, .ok ()) ∧
    ∃ s2, open_ (some s1.ptype) s1.cont = .ok s2 ∧
      s2.cont = s1.cont ∧ s2.summary = s1.summary ∧ s2.pool = s1.pool ∧ s2.tables = s1.tables ∧
      (∀ t, s2.loadRows t = s1.loadRows t) := by
  have hf : finish s = ((finish s).1, .ok ()) := by rw [← finish_ok s utf8Bytes (savable_of_all h)]
  exact ⟨_, hf, finish_reopens h.full (savable_of_all h) hf⟩

theorem created_all (ptype : Nat) (summary : PropSet) (hsum : SumInv summary) (s0 : Pkg)
    (hc : createTable (base ptype summary) Gen.nameValidation.toList Catalog.validationColumns = (s0, .ok ())) :
    All (fun _ => 0) s0 [Catalog.validationTable false] := by
  obtain ⟨hF0, hN0⟩ := created_full ptype summary s0 hc
  have hsum0 : s0.summary = summary := by
    have := (MsiProofs.Synced.good_createTable (base ptype summary) (base_core ptype summary).sep
      Gen.nameValidation.toList Catalog.validationColumns).effect.summary
    rwa [hc] at this
  exact ⟨hF0, hN0, created_valid ptype summary s0 hc, created_pt IsUtf8 Utf8Short utf8Short_nil utf8Short_of_ascii ptype summary hsum.cp s0 hc, hsum0 ▸ hsum⟩

/-- **the whole-life theorem, closed**: start from what `create` builds under a UTF-8 summary that
satisfies the summary invariant; run any covered history; then a save SUCCEEDS and the saved
container reopens as the same package -/
theorem created_closed (ptype : Nat) (summary : PropSet) (hsum : SumInv summary) (s0 : Pkg)
    (hc : createTable (base ptype summary) Gen.nameValidation.toList Catalog.validationColumns = (s0, .ok ()))
    (steps : List Step) (ha : AdmissibleC s0 steps) :
    ∃ s1, finish (runAll s0 steps) = (s1, .ok ()) ∧
    ∃ s2, open_ (some s1.ptype) s1.cont = .ok s2 ∧
      s2.cont = s1.cont ∧ s2.summary = s1.summary ∧ s2.pool = s1.pool ∧ s2.tables = s1.tables ∧
      (∀ t, s2.loadRows t = s1.loadRows t) := by
  obtain ⟨tabs, h⟩ := history_closed _ steps s0 _ (created_all ptype summary hsum s0 hc) ha
  exact all_reopens h


/-! ### from `Package::create` itself -/

/-- the summary information `SummaryInfo::new` builds -/
def newSummary : PropSet :=
  (PropSet.new Gen.summaryOs Gen.summaryOsVersion Gen.summaryFmtid).set Gen.propCodepage
    (.i2 (toI16 (65001 % 65536)))

theorem summary_new (prof : Profile) (p : PropSet) (h : Summary.new prof = .ok p) : p = newSummary := by
  have all : ∀ a b : Bool, Summary.new ⟨a, b⟩ = .ok newSummary := by decide +kernel
  obtain ⟨oc, da⟩ := prof
  rw [all oc da] at h
  cases h; rfl

theorem newSummary_inv : SumInv newSummary := by
  have hprops : newSummary.props = [(Gen.propCodepage, PropVal.i2 (toI16 (65001 % 65536)))] := rfl
  have hcp : newSummary.codepage = PropSet.utf8 := by decide +kernel
  have hfix : newSummary.os ≤ 2 ∧ newSummary.osVersion < 65536 ∧ newSummary.clsid.length = 16 ∧
      newSummary.fmtid = Gen.summaryFmtid := by decide +kernel
  -- the one property it holds is the code page
  have hmem : ∀ {P : Nat × PropVal → Prop}, P (Gen.propCodepage, .i2 (toI16 (65001 % 65536))) →
      ∀ kv ∈ newSummary.props, P kv := by
    intro P h kv hkv
    rw [hprops] at hkv
    cases List.mem_singleton.mp hkv
    exact h
  refine ⟨?_, hfix.1, hfix.2.1, hfix.2.2.1, hfix.2.2.2, ?_, hmem (by decide), hmem ?_, ?_⟩
  · rw [hcp]; show some _ = _; decide +kernel
  · rw [hprops]; exact List.pairwise_singleton _ _
  · show -32768 ≤ toI16 (65001 % 65536) ∧ toI16 (65001 % 65536) ≤ 32767
    decide +kernel
  · unfold CpConsistent
    rw [hprops, hcp]
    show CodePage.fromId ((ofI16 (toI16 (65001 % 65536)) : Nat) : Int) = some PropSet.utf8
    decide +kernel

theorem title_small (ptype : Nat) : ValSmall (.lpstr (ptypeTitle ptype).toList) := by
  show (utf8Bytes _).length < bound
  refine Nat.lt_of_le_of_lt (utf8Bytes_bounds _).2 ?_
  unfold ptypeTitle bound
  split <;> decide

/-- **the package `Package::create` returns keeps everything** -/
theorem create_all (prof : Profile) (ptype : Nat) (s : Pkg) (hc : create prof ptype = .ok s) :
    ∃ tabs, All (fun _ => 0) s tabs := by
  obtain ⟨summary0, s0, hs, hct, hfl⟩ := create_steps hc
  have hsum : SumInv (summary0.set Gen.propTitle (.lpstr (ptypeTitle ptype).toList)) := by
    rw [summary_new prof summary0 hs]
    exact sumInv_set _ newSummary_inv _ _ (by decide) (by decide) (title_small ptype)
  have := step_closed _ s0 _ (created_all ptype _ hsum s0 hct) .save trivial
  rwa [show Step.save.run s0 = s from congrArg Prod.fst hfl] at this

/-- **every package made with `Package::create` — closed form**: whatever covered calls follow, a
save succeeds and the saved container reopens as the same package -/
theorem create_closed (prof : Profile) (ptype : Nat) (s : Pkg) (hc : create prof ptype = .ok s)
    (steps : List Step) (ha : AdmissibleC s steps) :
    ∃ s1, finish (runAll s steps) = (s1, .ok ()) ∧
    ∃ s2, open_ (some s1.ptype) s1.cont = .ok s2 ∧
      s2.cont = s1.cont ∧ s2.summary = s1.summary ∧ s2.pool = s1.pool ∧ s2.tables = s1.tables ∧
      (∀ t, s2.loadRows t = s1.loadRows t) := by
  obtain ⟨tabs0, h0⟩ := create_all prof ptype s hc
  obtain ⟨tabs, h⟩ := history_closed _ steps s tabs0 h0 ha
  exact all_reopens h

end MsiProofs.ClosedLifecycle
