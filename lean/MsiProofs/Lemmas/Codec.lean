import MsiModel.Table
/-
Cell codec round trips: what `write_value` writes, `read_value` reads back.
-/
namespace MsiProofs.Codec
open MsiModel MsiModel.Bytes

@[simp] theorem toNat_ofNat_mod (x : Nat) : (UInt8.ofNat (x % 256)).toNat = x % 256 :=
  UInt8.toNat_ofNat_of_lt' (Nat.mod_lt _ (by decide))

/-! The readers on what the writers wrote, with no side condition: the word comes back reduced
modulo its width, so a run of reads is one `simp only` with these and `Res.bind_ok`. -/

@[simp] theorem readU16_u16le (n : Nat) (rest : Bytes) :
    readU16 (u16le n ++ rest) = .ok (n % 65536, rest) := by
  simp only [u16le, List.cons_append, List.nil_append, readU16, toNat_ofNat_mod]
  rw [show (65536 : Nat) = 256 * 256 from rfl, Nat.mod_mul]

@[simp] theorem readU32_u32le (n : Nat) (rest : Bytes) :
    readU32 (u32le n ++ rest) = .ok (n % 4294967296, rest) := by
  simp only [u32le, List.cons_append, List.nil_append, readU32, toNat_ofNat_mod]
  -- the four base-256 digits, by `Nat.mod_mul` three times
  rw [show (4294967296 : Nat) = 16777216 * 256 from rfl, Nat.mod_mul,
    show (16777216 : Nat) = 65536 * 256 from rfl, Nat.mod_mul, show (65536 : Nat) = 256 * 256 from rfl, Nat.mod_mul]

/-- offset binary: a value strictly inside `(-M, M)`, shifted by `M` and taken modulo `2 M`, is
the shifted value itself; so the word is positive, below `2 M`, and the shift is undone -/
theorem toNat_emod_offset {M N i : Int} (hN : N = 2 * M) (h1 : -M < i) (h2 : i < M) :
    (((i + M) % N).toNat : Int) = i + M := by
  rw [Int.emod_eq_of_lt (by omega) (by omega)]
  omega

/-- which cells a column type can hold (what `is_valid_value` lets through, plus null) -/
def Storable (long : Bool) : ColType → Cell → Prop
  | .int16, .null => True
  | .int16, .int n => -32768 < n.toInt ∧ n.toInt ≤ 32767
  | .int32, .null => True
  | .int32, .int n => -2147483648 < n.toInt
  | .str _, .null => True
  | .str _, .str r => 0 < r ∧ (if long then r < 16777216 else r ≤ 65535)
  | _, _ => False

/-- the written bytes are one string, whatever follows them in the stream -/
theorem cell_codec (long : Bool) (t : ColType) (c : Cell) (h : Storable long t c) :
    ∃ bs, t.writeValue long c = .ok bs ∧ bs.length = t.width long ∧
      ∀ rest, t.readValue long (bs ++ rest) = .ok (c, rest) := by
  cases t with
  | int16 =>
    cases c with
    | null => exact ⟨_, rfl, rfl, fun rest => by simp [ColType.readValue]⟩
    | int n =>
      refine ⟨_, rfl, rfl, fun rest => ?_⟩
      have h : -32768 < n.toInt ∧ n.toInt ≤ 32767 := h
      have hw : (ofI16 (n.toInt + 32768) : Int) = n.toInt + 32768 := toNat_emod_offset rfl h.1 (by omega)
      generalize ofI16 (n.toInt + 32768) = w at hw
      simp only [ColType.readValue, readU16_u16le, Res.bind_ok, Nat.mod_eq_of_lt (show w < 65536 by omega),
        if_neg (show w ≠ 0 by omega), Res.pure_eq]
      rw [show (w : Int) - 32768 = n.toInt by omega, Int32.ofInt_toInt]
    | str r => exact h.elim
  | int32 =>
    cases c with
    | null => exact ⟨_, rfl, rfl, fun rest => by simp [ColType.readValue]⟩
    | int n =>
      refine ⟨_, rfl, rfl, fun rest => ?_⟩
      have h : -2147483648 < n.toInt := h
      have hub : n.toInt < 2147483648 := Int32.toInt_lt n
      have hw : (ofI32 (n.toInt + 2147483648) : Int) = n.toInt + 2147483648 := toNat_emod_offset rfl h hub
      generalize ofI32 (n.toInt + 2147483648) = w at hw
      simp only [ColType.readValue, readU32_u32le, Res.bind_ok,
        Nat.mod_eq_of_lt (show w < 4294967296 by omega), if_neg (show w ≠ 0 by omega), Res.pure_eq]
      rw [show (w : Int) - 2147483648 = n.toInt by omega, Int32.ofInt_toInt]
    | str r => exact h.elim
  | str w =>
    cases c with
    | null => cases long <;> exact ⟨_, rfl, rfl, fun rest => by simp [ColType.readValue, readU8]⟩
    | int n => exact h.elim
    | str r =>
      obtain ⟨hpos, hr⟩ := h
      cases long
      · simp only [Bool.false_eq_true, if_false] at hr
        refine ⟨u16le r, by simp [ColType.writeValue, hr], rfl, fun rest => ?_⟩
        simp only [ColType.readValue, Bool.false_eq_true, if_false, readU16_u16le, Res.bind_ok,
          Nat.mod_eq_of_lt (show r < 65536 by omega), if_neg (show r ≠ 0 by omega), Res.pure_eq]
      · simp only [if_true] at hr
        refine ⟨u16le (r % 65536) ++ [UInt8.ofNat (r / 65536 % 256)], by simp [ColType.writeValue], rfl,
          fun rest => ?_⟩
        simp only [ColType.readValue, if_true, List.append_assoc, readU16_u16le, Res.bind_ok,
          List.cons_append, List.nil_append, readU8, toNat_ofNat_mod, Res.pure_eq]
        rw [show r % 65536 % 65536 + 65536 * (r / 65536 % 256) = r by omega, if_neg (show r ≠ 0 by omega)]

/-- **cell round trip**: for every column type, both reference widths and every storable
cell, reading what was written gives the cell back and consumes exactly the written bytes:
integers are offset-binary with zero meaning null, and the most negative value is reserved -/
theorem cell_roundtrip (long : Bool) (t : ColType) (c : Cell) (h : Storable long t c) (rest : Bytes) :
    ∃ bs, t.writeValue long c = .ok bs ∧ bs.length = t.width long ∧
      t.readValue long (bs ++ rest) = .ok (c, rest) :=
  let ⟨bs, hw, hl, hr⟩ := cell_codec long t c h
  ⟨bs, hw, hl, hr rest⟩

/-- the reserved values: the most negative integer of each width is written as the null word -/
theorem min_is_null :
    ColType.int16.writeValue false (.int (-32768)) = ColType.int16.writeValue false .null ∧
    ColType.int32.writeValue false (.int (-2147483648)) = ColType.int32.writeValue false .null := by
  constructor <;> rfl

end MsiProofs.Codec
