import MsiProofs.Lemmas.Gate
import MsiProofs.Lemmas.RelationalLife
import MsiProofs.Lemmas.DropTotal
/-
`create_table` is atomic (properties C04, C20, C01): in every state with the full package invariant,
once the up-front checks pass, `create_table` either succeeds, or hits the string pool's capacity
panic (finding D16b), or is refused by the room check (`check_catalog_room`) before anything is
written.  No state exists in which the call fails after having written part of the catalog: the
rows `_Tables` and `_Validation` hold are never more than the rows `_Columns` holds, so whatever
fits `_Columns` fits them, and no other check of the three inserts can fail for a fresh,
pre-validated table.
-/
namespace MsiProofs.CreateAtomic
open MsiModel MsiModel.Bytes MsiModel.Pkg MsiProofs.GlobalInv MsiProofs.SortedInv MsiProofs.Frame
open MsiProofs.Refine MsiProofs.Relational MsiProofs.SaveOpen MsiProofs.CreateTable MsiProofs.FullHistory
open MsiProofs.Gate MsiProofs.CatalogRows MsiProofs.CatalogOpen MsiProofs.CatalogCodec MsiProofs.CatalogSync

theorem checkNewV_none (t : Table) (shown : List (List Value)) : ∀ (news seen : List (List Value)),
    (∀ r ∈ news, ∀ row ∈ shown, keyV t row ≠ keyV t r) → (news.map (keyV t)).Nodup →
    (∀ r ∈ news, keyV t r ∉ seen) → checkNewV t shown news seen = none := by
  intro news
  induction news with
  | nil => intro seen _ _ _; rfl
  | cons r rs ih =>
    intro seen h1 h2 h3
    simp only [checkNewV]
    have hsh : (shown.any fun row => keyV t row == keyV t r) = false := by
      rw [List.any_eq_false]
      intro row hrow
      simpa using h1 r (by simp) row hrow
    have hseen : seen.contains (keyV t r) = false := by
      have := h3 r (by simp)
      simpa using this
    simp only [hsh, hseen, Bool.false_eq_true, if_false]
    simp only [List.map_cons, List.nodup_cons] at h2
    apply ih
    · intro r' hr' row hrow; exact h1 r' (by simp [hr']) row hrow
    · exact h2.2
    · intro r' hr' hmem
      simp only [List.mem_cons] at hmem
      rcases hmem with e | hmem
      · exact h2.1 (e ▸ List.mem_map.mpr ⟨r', hr', rfl⟩)
      · exact h3 r' (by simp [hr']) hmem

theorem length_le_of_nodup_subset {α β} [DecidableEq β] (a : List β) (b : List α) (g : α → β) (hn : a.Nodup)
    (hsub : ∀ x ∈ a, x ∈ b.map g) : a.length ≤ b.length := by
  have := (List.subperm_of_subset hn hsub).length_le
  simpa using this

theorem key_columns (long : Bool) (row : List Value) :
    keyV (Catalog.columnsTable long) row = [row.getD 0 .null, row.getD 1 .null] := rfl
theorem key_tables (long : Bool) (row : List Value) :
    keyV (Catalog.tablesTable long) row = [row.getD 0 .null] := rfl
theorem key_validation (long : Bool) (row : List Value) :
    keyV (Catalog.validationTable long) row = [row.getD 0 .null, row.getD 1 .null] := rfl


/-! ### what the catalog tables show, and how many rows -/

theorem catalog_views (s : Pkg) (tabs : List Table) (hR : Rows s tabs) :
    (∀ v, v ∈ tableView s (Catalog.tablesTable s.pool.longRefs) ↔ ∃ t ∈ tabs, v = [Value.str t.name]) ∧
    (∀ v, v ∈ tableView s (Catalog.columnsTable s.pool.longRefs) ↔ ∃ t ∈ tabs, v ∈ colRowsOf t) ∧
    (∀ v, v ∈ tableView s (Catalog.validationTable s.pool.longRefs) ↔ ∃ t ∈ tabs, v ∈ valRowsOf t) := by
  obtain ⟨tR, hlT, hT⟩ := hR.rowsT
  obtain ⟨cR, hlC, hC⟩ := hR.rowsC
  obtain ⟨vR, hlV, hV⟩ := hR.rowsV
  refine ⟨?_, ?_, ?_⟩
  · intro v; rw [tableView_ok hlT]; exact hT v
  · intro v; rw [tableView_ok hlC]; exact hC v
  · intro v; rw [tableView_ok hlV]; exact hV v

theorem first_colRow (t : Table) (h : t.columns ≠ []) :
    ∃ c, c ∈ colRowsOf t ∧ c.getD 0 .null = .str t.name := by
  have hpos : 0 < t.columns.length := List.length_pos_iff.mpr h
  have hm := (mem_entriesOf t (t.name, 1 + 0, t.columns[0].name, bitsOf t.columns[0])).mpr ⟨0, hpos, rfl⟩
  exact ⟨_, List.mem_map.mpr ⟨_, hm, rfl⟩, rfl⟩

theorem tables_le_columns (slack : Nat → Nat) (s : Pkg) (tabs : List Table) (hC : Core slack s tabs) :
    (tableView s (Catalog.tablesTable s.pool.longRefs)).length ≤
      (tableView s (Catalog.columnsTable s.pool.longRefs)).length := by
  obtain ⟨hT, hCv, -⟩ := catalog_views s tabs hC.rows
  have htt : Catalog.tablesTable s.pool.longRefs ∈ s.tables := (hC.mem _).mpr (Or.inr (Or.inl rfl))
  have hn := ascending_nodup (view_ascending s hC.sorted _ htt)
  apply length_le_of_nodup_subset _ _ (fun row => [row.getD 0 .null]) hn
  intro x hx
  obtain ⟨t, ht, rfl⟩ := (hT x).mp hx
  obtain ⟨c, hc, hc0⟩ := first_colRow t (hC.ok t ht).2.1
  exact List.mem_map.mpr ⟨c, (hCv c).mpr ⟨t, ht, hc⟩, by rw [hc0]⟩

theorem validation_le_columns (slack : Nat → Nat) (s : Pkg) (tabs : List Table) (hC : Core slack s tabs)
    (hv : Catalog.validationTable s.pool.longRefs ∈ tabs) :
    (tableView s (Catalog.validationTable s.pool.longRefs)).length ≤
      (tableView s (Catalog.columnsTable s.pool.longRefs)).length := by
  obtain ⟨-, hCv, hV⟩ := catalog_views s tabs hC.rows
  have hvt : Catalog.validationTable s.pool.longRefs ∈ s.tables := (hC.mem _).mpr (Or.inr (Or.inr hv))
  have hasc := view_ascending s hC.sorted _ hvt
  have hn : ((tableView s (Catalog.validationTable s.pool.longRefs)).map
      (keyV (Catalog.validationTable s.pool.longRefs))).Nodup := by
    unfold Ascending at hasc
    exact hasc.imp fun hab e => by rw [e, MsiProofs.Order.keyLt_irrefl] at hab; cases hab
  have := length_le_of_nodup_subset _ (tableView s (Catalog.columnsTable s.pool.longRefs))
    (fun row => [row.getD 0 .null, row.getD 2 .null]) hn (by
      intro k hk
      obtain ⟨v, hvm, rfl⟩ := List.mem_map.mp hk
      obtain ⟨t, ht, hvt'⟩ := (hV v).mp hvm
      obtain ⟨c, hcm, rfl⟩ := List.mem_map.mp hvt'
      obtain ⟨j, hj, hcj⟩ := List.getElem_of_mem hcm
      have hno := hC.namesOk t ht
      obtain ⟨-, h0, h1⟩ := keyOfV_valRow t.name c hno.1 (hno.2 c hcm)
      have hm := (mem_entriesOf t (t.name, 1 + j, t.columns[j].name, bitsOf t.columns[j])).mpr ⟨j, hj, rfl⟩
      refine List.mem_map.mpr ⟨[.str t.name, .int (Int32.ofNat (1 + j)), .str t.columns[j].name, .int (bitsOf t.columns[j])],
        (hCv _).mpr ⟨t, ht, List.mem_map.mpr ⟨_, hm, rfl⟩⟩, ?_⟩
      rw [key_validation, h0, h1, hcj]
      rfl)
  simpa using this


/-! ### the checks of the three catalog inserts -/

theorem createError_valid (s : Pkg) (name : List Char) (cols : List Column) (h : createError s name cols = none) :
    rowsValidFor (Catalog.columnsTable false) (catalogRowsColumns name cols) = true ∧
    rowsValidFor (Catalog.tablesTable false) [[.str name]] = true ∧
    rowsValidFor (Catalog.validationTable false) (catalogRowsValidation name cols) = true := by
  obtain ⟨-, -, -, -, -, -, -, -, -, h⟩ := Exec.createError_eq_none.mp h
  exact h

theorem valid_of_rowsValid (t : Table) (rows : List (List Value)) (h : rowsValidFor t rows = true) :
    (rows.any fun r => (t.columns.zip r).any fun x => !x.1.isValidValue x.2) = false := by
  unfold rowsValidFor at h
  rw [List.any_eq_false]
  intro r hr
  have h1 := List.all_eq_true.mp h r hr
  simp only [Bool.not_eq_true]
  rw [List.any_eq_false]
  intro x hx
  have := List.all_eq_true.mp h1 x hx
  simpa using this

theorem gate_fresh (t : Table) (shown : List (List Value)) (rows : List (List Value))
    (har : ∀ r ∈ rows, r.length = t.columns.length) (hval : rowsValidFor t rows = true)
    (hkeys : checkNewV t shown (rows.map fun r => r.map storable) [] = none) :
    gate t shown rows = if shown.length + rows.length > Gen.maxTableRows then some .invalidInput else none := by
  unfold gate
  have h1 : (rows.any fun r => decide (r.length ≠ t.columns.length)) = false := by
    rw [List.any_eq_false]; intro r hr; simpa using har r hr
  simp only [h1, valid_of_rowsValid t rows hval, Bool.false_eq_true, if_false, hkeys]

theorem ofNat_inj (a b : Nat) (ha : a < 2147483648) (hb : b < 2147483648) (h : Int32.ofNat a = Int32.ofNat b) : a = b := by
  have h1 := (ofNat_toNat a ha).1
  have h2 := (ofNat_toNat b hb).1
  rw [h] at h1
  omega

theorem keys_columns (long : Bool) (shown : List (List Value)) (tabs : List Table)
    (hshown : ∀ v, v ∈ shown → ∃ t ∈ tabs, v ∈ colRowsOf t)
    (name : List Char) (cols : List Column) (hn : name ≠ []) (hc : ∀ c ∈ cols, c.name ≠ [])
    (hsmall : cols.length < 2147483647) (hfresh : ∀ t ∈ tabs, t.name ≠ name) :
    checkNewV (Catalog.columnsTable long) shown ((catalogRowsColumns name cols).map fun r => r.map storable) [] = none := by
  rw [colRows_new name cols long hn hc]
  apply checkNewV_none
  · intro r hr row hrow
    obtain ⟨t, ht, hrt⟩ := hshown row hrow
    obtain ⟨e, he, rfl⟩ := List.mem_map.mp hrt
    obtain ⟨e', he', rfl⟩ := List.mem_map.mp hr
    obtain ⟨j, hj, rfl⟩ := (mem_entriesOf t e).mp he
    obtain ⟨j', hj', rfl⟩ := (mem_entriesOf _ e').mp he'
    rw [key_columns, key_columns]
    intro hk
    simp only [List.getD_cons_zero, List.cons.injEq, Value.str.injEq] at hk
    exact hfresh t ht hk.1
  · -- the new keys are (name, 1), (name, 2), ...
    have hmap : (colRowsOf ⟨name, cols, long⟩).map (keyV (Catalog.columnsTable long)) =
        (List.range' 0 cols.length).map fun j => [Value.str name, Value.int (Int32.ofNat (1 + j))] := by
      unfold colRowsOf entriesOf
      rw [← List.zipIdx_map_snd 0 cols]
      simp only [List.map_map]
      exact List.map_congr_left fun x _ => rfl
    rw [hmap]
    refine nodup_map_on _ _ List.nodup_range' fun a ha b hb hab => ?_
    simp only [List.cons.injEq, Value.int.injEq, and_true, true_and] at hab
    have ha := (List.mem_range'_1.mp ha).2
    have hb := (List.mem_range'_1.mp hb).2
    have := ofNat_inj (1 + a) (1 + b) (by omega) (by omega) hab
    omega
  · intro r _ h; cases h

theorem keys_tables (long : Bool) (shown : List (List Value)) (tabs : List Table)
    (hshown : ∀ v, v ∈ shown → ∃ t ∈ tabs, v = [Value.str t.name])
    (name : List Char) (hn : name ≠ []) (hfresh : ∀ t ∈ tabs, t.name ≠ name) :
    checkNewV (Catalog.tablesTable long) shown (([[Value.str name]] : List (List Value)).map fun r => r.map storable) [] = none := by
  rw [tabRows_new name hn]
  apply checkNewV_none
  · intro r hr row hrow
    obtain ⟨t, ht, rfl⟩ := hshown row hrow
    simp only [List.mem_singleton] at hr
    subst hr
    rw [key_tables, key_tables]
    intro hk
    simp only [List.getD_cons_zero, List.cons.injEq, Value.str.injEq, and_true] at hk
    exact hfresh t ht hk
  · simp
  · intro r _ h; cases h

theorem keys_validation (long : Bool) (shown : List (List Value)) (tabs : List Table) (hno : NamesOk tabs)
    (hshown : ∀ v, v ∈ shown → ∃ t ∈ tabs, v ∈ valRowsOf t)
    (name : List Char) (cols : List Column) (hn : name ≠ []) (hc : ∀ c ∈ cols, c.name ≠ [])
    (hnd : (cols.map fun (c : Column) => c.name).Nodup) (hfresh : ∀ t ∈ tabs, t.name ≠ name) :
    checkNewV (Catalog.validationTable long) shown ((catalogRowsValidation name cols).map fun r => r.map storable) [] = none := by
  rw [valRows_new name cols long]
  apply checkNewV_none
  · intro r hr row hrow
    obtain ⟨t, ht, hrt⟩ := hshown row hrow
    obtain ⟨c, hcm, rfl⟩ := List.mem_map.mp hrt
    obtain ⟨c', hcm', rfl⟩ := List.mem_map.mp hr
    obtain ⟨-, h0, -⟩ := keyOfV_valRow t.name c (hno t ht).1 ((hno t ht).2 c hcm)
    obtain ⟨-, h0', -⟩ := keyOfV_valRow name c' hn (hc c' hcm')
    rw [key_validation, key_validation, h0, h0']
    intro hk
    simp only [List.cons.injEq, Value.str.injEq] at hk
    exact hfresh t ht hk.1
  · have hmap : (valRowsOf ⟨name, cols, long⟩).map (keyV (Catalog.validationTable long)) =
        (cols.map fun (c : Column) => c.name).map fun n => [Value.str name, Value.str n] := by
      unfold valRowsOf
      simp only [List.map_map]
      apply List.map_congr_left
      intro c hcm
      obtain ⟨-, h0, h1⟩ := keyOfV_valRow name c hn (hc c hcm)
      simp only [Function.comp, key_validation, h0, h1]
    rw [hmap]
    exact nodup_map_on _ _ hnd fun a _ b _ hab => by simpa using hab
  · intro r _ h; cases h


/-! ### the three stages -/

theorem arity_columns (name : List Char) (cols : List Column) (long : Bool) :
    ∀ r ∈ catalogRowsColumns name cols, r.length = (Catalog.columnsTable long).columns.length := by
  intro r hr
  unfold catalogRowsColumns at hr
  obtain ⟨x, -, rfl⟩ := List.mem_map.mp hr
  rfl

theorem arity_validation (name : List Char) (cols : List Column) (long : Bool) :
    ∀ r ∈ catalogRowsValidation name cols, r.length = (Catalog.validationTable long).columns.length := by
  intro r hr
  unfold catalogRowsValidation at hr
  obtain ⟨c, -, rfl⟩ := List.mem_map.mp hr
  rfl

theorem insertRows_refused (slack : Nat → Nat) (s : Pkg) (hI : Inv slack s) (tn : List Char) (R : List (List Value))
    (h : (insertRows s tn R).2 ≠ .ok ()) : (insertRows s tn R).1 = { s with finisher := true } :=
  insert_refused_noop slack _ tn R (inv_finisher slack s hI) h

theorem insertRows_passes (slack : Nat → Nat) (s : Pkg) (hI : Inv slack s) (hS : SortedAll s) (tn : List Char)
    (R : List (List Value)) (X : Table) (hX : s.findTable tn = some X)
    (har : ∀ r ∈ R, r.length = X.columns.length) (hval : rowsValidFor X R = true)
    (hkeys : checkNewV X (tableView s X) (R.map fun r => r.map storable) [] = none)
    (hfit : (tableView s X).length + R.length ≤ Gen.maxTableRows) :
    (insertRows s tn R).2 = .ok () ∨ ∃ w, (insertRows s tn R).2 = .panic w := by
  have g := insert_reply slack { s with finisher := true } (inv_finisher slack s hI) (sorted_finisher s hS) tn R X hX
  rw [show tableView { s with finisher := true } X = tableView s X from rfl, gate_fresh X _ R har hval hkeys,
    if_neg (Nat.not_lt.mpr hfit)] at g
  exact g

theorem room_fits (s : Pkg) (catalog key name : List Char) (n : Nat) (t : Table)
    (hf : s.findTable catalog = some t) (h : catalogRoomOne s catalog key name n = .ok ()) :
    (tableView s t).length + n ≤ Gen.maxTableRows := by
  unfold catalogRoomOne at h
  rw [hf] at h
  simp only at h
  unfold tableView rowsOf
  cases hl : s.loadRows t with
  | err k => rw [hl] at h; cases h
  | panic w => rw [hl] at h; cases h
  | ok rows =>
    rw [hl] at h
    simp only at h
    by_cases hgt : rows.length + n > Gen.maxTableRows
    · rw [if_pos hgt] at h; cases h
    · simp only [List.length_map]; omega

theorem room_columns (s : Pkg) (name : List Char) (cols : List Column) (h : catalogRoom s name cols = .ok ()) :
    catalogRoomOne s Gen.nameColumns.toList "Table".toList name cols.length = .ok () := by
  unfold catalogRoom at h
  split at h
  · cases h
  cases h1 : catalogRoomOne s Gen.nameColumns.toList "Table".toList name cols.length with
  | ok u => cases u; rfl
  | err k => rw [h1] at h; cases h
  | panic w => rw [h1] at h; cases h

/-- after the room check all three sets of catalog rows fit: `_Tables` and `_Validation` never show
more rows than `_Columns`, and get no more new ones -/
theorem catalog_fits (slack : Nat → Nat) (s : Pkg) (tabs : List Table) (hF : Full slack s tabs) (name : List Char)
    (cols : List Column) (hne : cols ≠ []) (hroom : catalogRoom s name cols = .ok ()) :
    (tableView s (Catalog.columnsTable s.pool.longRefs)).length + (catalogRowsColumns name cols).length ≤ Gen.maxTableRows ∧
    (tableView s (Catalog.tablesTable s.pool.longRefs)).length + ([[Value.str name]] : List (List Value)).length ≤ Gen.maxTableRows ∧
    (tableView s (Catalog.validationTable s.pool.longRefs)).length + (catalogRowsValidation name cols).length ≤ Gen.maxTableRows := by
  have h0 := room_fits s Gen.nameColumns.toList "Table".toList name cols.length _ (MsiProofs.DropTotal.catalog_find hF).1
    (room_columns s name cols hroom)
  have h1 := tables_le_columns slack s tabs hF.core
  have h2 := validation_le_columns slack s tabs hF.core hF.hasVal
  have hpos : 0 < cols.length := List.length_pos_iff.mpr hne
  have hlenC : (catalogRowsColumns name cols).length = cols.length := by unfold catalogRowsColumns; simp
  have hlenV : (catalogRowsValidation name cols).length = cols.length := by unfold catalogRowsValidation; simp
  rw [hlenC, hlenV, List.length_singleton]
  omega

/-- **`create_table` is atomic**: with the full package invariant, once the up-front checks pass
the call either succeeds, or hits the capacity panic, or is refused by the room check, having
changed nothing.  After the room check none of the three catalog inserts can be refused: their
rows were validated up front, their keys are fresh because the name is, and they fit. -/
theorem createTable_atomic (slack : Nat → Nat) (s : Pkg) (tabs : List Table) (hF : Full slack s tabs)
    (hN : NoOrphans s) (hV : MsiProofs.ValidCells.ValidAll s) (name : List Char) (cols : List Column)
    (hce : createError s name cols = none) :
    (createTable s name cols).2 = .ok () ∨ (∃ w, (createTable s name cols).2 = .panic w) ∨
    ((∃ k, (createTable s name cols).2 = .err k) ∧ (createTable s name cols).1 = s) := by
  have hC := hF.core
  have hf := createError_facts s name cols hce
  obtain ⟨hv1, hv2, hv3⟩ := createError_valid s name cols hce
  have hvn := hf.validName
  simp only [Table.isValidName, Bool.and_eq_true] at hvn
  have hname : name ≠ [] := identifier_ne_nil name hvn.1
  have hnewS : ∀ x ∈ s.tables, x.name ≠ name := findTable_none_ne s name hf.fresh
  have hnewT : ∀ t ∈ tabs, t.name ≠ name := fun t ht => hnewS t ((hC.mem t).mpr (Or.inr (Or.inr ht)))
  obtain ⟨hvT, hvC, hvV⟩ := catalog_views s tabs hC.rows
  obtain ⟨hXc, hXt, hXv⟩ := MsiProofs.DropTotal.catalog_find hF
  have hne : (Catalog.tablesTable s.pool.longRefs).name ≠ Gen.nameColumns.toList ∧
      (Catalog.validationTable s.pool.longRefs).name ≠ Gen.nameColumns.toList ∧
      (Catalog.validationTable s.pool.longRefs).name ≠ Gen.nameTables.toList := by
    have e := fun k => Cat.table_name s.pool.longRefs k
    exact ⟨e .tables ▸ Cat.name_ne (by decide : Cat.tables ≠ Cat.columns),
      e .validation ▸ Cat.name_ne (by decide : Cat.validation ≠ Cat.columns),
      e .validation ▸ Cat.name_ne (by decide : Cat.validation ≠ Cat.tables)⟩
  have htt := MsiProofs.Synced.findTable_mem hXt
  have hvt := MsiProofs.Synced.findTable_mem hXv
  rw [Exec.createTable_eq hce]
  cases hroom : catalogRoom s name cols with
  | err k => exact Or.inr (Or.inr ⟨⟨k, rfl⟩, rfl⟩)
  | panic w => exact Or.inr (Or.inl ⟨w, rfl⟩)
  | ok u =>
  obtain ⟨hfit1, hfit2, hfit4⟩ := catalog_fits slack s tabs hF name cols hf.nonempty hroom
  refine Or.imp_right Or.inl (Exec.andThen_passes ?_ fun s1 hr1 => Exec.andThen_passes ?_ fun s2 hr2 => ?_)
  · -- `_Columns`
    exact insertRows_passes slack s hC.inv hC.sorted _ _ _ hXc (arity_columns name cols _) hv1
      (keys_columns _ _ tabs (fun v hv => (hvC v).mp hv) name cols hname hf.colNames hf.small hnewT) hfit1
  · -- `_Tables`, which shows what it showed
    obtain ⟨hI1, hS1, -, ht1, -, ho1, -⟩ :=
      MsiProofs.RelationalApi.op_frame slack s hC.inv hC.sorted (.insert _ _) s1 (congrArg Prod.fst hr1)
    have hview : tableView s1 (Catalog.tablesTable s.pool.longRefs) = tableView s (Catalog.tablesTable s.pool.longRefs) :=
      ho1 _ htt hne.1
    refine insertRows_passes slack s1 hI1 hS1 _ _ (Catalog.tablesTable s.pool.longRefs)
      (by rw [findTable_congr ht1]; exact hXt) (fun r hr => by cases List.mem_singleton.mp hr; rfl) hv2 ?_ ?_
    · rw [hview]; exact keys_tables _ _ tabs (fun v hv => (hvT v).mp hv) name hname hnewT
    · rw [hview]; exact hfit2
  · -- the definition joins the table list, then `_Validation`, which shows what it showed
    obtain ⟨htabs2, hlong2, -, ho2, hI3, hS3, -⟩ :=
      MsiProofs.RelationalApi.createTable_stage slack s hC.inv hC.sorted hV name cols hce
        (MsiProofs.Lifecycle.fresh_of_noOrphans s hN name cols hce) (MsiProofs.RelationalApi.stream_key_fresh hN hce) hr1 hr2
    rw [hlong2]
    have hview : tableView (withTable s2 ⟨name, cols, s.pool.longRefs⟩) (Catalog.validationTable s.pool.longRefs) =
        tableView s (Catalog.validationTable s.pool.longRefs) :=
      ho2 _ hvt hne.2.1 hne.2.2
    have hXv3 : (withTable s2 ⟨name, cols, s.pool.longRefs⟩).findTable Gen.nameValidation.toList =
        some (Catalog.validationTable s.pool.longRefs) := by
      have := findTable_congr htabs2 Gen.nameValidation.toList
      unfold Pkg.findTable at this ⊢
      show (insertTable s2.tables _).find? _ = _
      rw [find_insertTable_other s2.tables _ _ (fun e => hnewS _ hvt e.symm) (by rw [htabs2]; exact hnewS), this]
      exact hXv
    refine insertRows_passes slack (withTable s2 ⟨name, cols, s.pool.longRefs⟩) hI3 hS3 _ _ _ hXv3
      (arity_validation name cols _) hv3 ?_ ?_
    · rw [hview]
      exact keys_validation _ _ tabs hC.namesOk (fun v hv => (hvV v).mp hv) name cols hname hf.colNames hf.colNodup hnewT
    · rw [hview]; exact hfit4

end MsiProofs.CreateAtomic
