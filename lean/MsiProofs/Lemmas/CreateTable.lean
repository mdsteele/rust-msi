import MsiProofs.Lemmas.CatalogRows
/-
The package invariants that `create_table` and `drop_table` maintain, and `create_table` itself.
`Reads` says what a table shows; `Cat` indexes the three catalog tables; `Core slack s tabs` bundles
the invariants of the statements (`Inv`, `SortedAll`, metadata in sync) with the catalog invariant in
membership form (`CatalogRows.Rows`) for the definitions `tabs` — the user tables and `_Validation`,
i.e. every table but `_Tables` and `_Columns`; `Full` adds that `_Validation` is among them.
An accepted `create_table` takes `Core` for `tabs` to `Core` for `tabs` with the new definition
(`createTable_core`, `createTable_full`).
-/
namespace MsiProofs.CreateTable
open MsiModel MsiModel.Bytes MsiModel.Pkg MsiProofs.CatalogOpen MsiProofs.CatalogCodec MsiProofs.CatalogSync
open MsiProofs.GlobalInv MsiProofs.SortedInv MsiProofs.CatalogRows MsiProofs.Frame MsiProofs.Refine
open MsiProofs.RefineExact MsiProofs.RefineDelete MsiProofs.SaveOpen MsiProofs.RowsOk

/-- "table `Y` reads, as values, exactly the rows satisfying `P`" -/
def Reads (s : Pkg) (Y : Table) (P : List Value → Prop) : Prop :=
  ∃ rows, s.loadRows Y = .ok rows ∧ ∀ v, v ∈ rows.map (rowValues s.pool) ↔ P v

theorem reads_congr {s s' : Pkg} {Y : Table} (hl' : s'.loadRows Y = s.loadRows Y)
    (hv : ∀ rows, s.loadRows Y = .ok rows → ∀ r ∈ rows, rowValues s'.pool r = rowValues s.pool r)
    {P : List Value → Prop} (h : Reads s Y P) : Reads s' Y P := by
  obtain ⟨rows, hl, hm⟩ := h
  refine ⟨rows, hl' ▸ hl, fun v => ?_⟩
  rw [← hm v, List.map_congr_left (hv rows hl)]

theorem reads_kept {s s' : Pkg} {tn : List Char} (hk : Kept s s' tn) {Y : Table} (hY : Y ∈ s.tables)
    (hne : Y.name ≠ tn) {P : List Value → Prop} (h : Reads s Y P) : Reads s' Y P :=
  reads_congr (hk.rows Y hY hne) (hk.vals Y hY hne) h

theorem reads_insert (slack : Nat → Nat) (s : Pkg) (hI : Inv slack s) (tn : List Char) (R : List (List Value))
    (s' : Pkg) (h : insertExec s tn R = (s', .ok ())) (X : Table) (hX : s.findTable tn = some X)
    {P : List Value → Prop} (hr : Reads s X P) :
    Reads s' X (fun v => P v ∨ v ∈ R.map (fun r => r.map storable)) := by
  obtain ⟨rows, hl, hm⟩ := hr
  have htm := MsiProofs.Synced.findTable_mem hX
  have hliveAll := live_of_accounted slack s.pool _ hI.pos hI.counts
  have hlive : ∀ r ∈ rows, ∀ c ∈ r, LiveCell s.pool c :=
    fun r hr c hc => hliveAll c (cell_mem_tables htm hl hr hc)
  obtain ⟨hlr, hrs⟩ := hI.widths X htm
  obtain ⟨stored, hstored, hmem, -⟩ :=
    MsiProofs.RefineLoad.insert_then_load s tn R s' h X hX rows hl hlive hI.sized hlr hrs
  exact ⟨stored, hstored, fun v => by rw [hmem v, hm v]⟩

/-- the invariants do not mention the finisher flag -/
theorem inv_finisher (slack : Nat → Nat) (s : Pkg) (h : Inv slack s) : Inv slack { s with finisher := true } :=
  ⟨h.distinct, h.loads, h.pos, h.counts, h.sized, h.widths⟩

theorem sorted_finisher (s : Pkg) (h : SortedAll s) : SortedAll { s with finisher := true } := h

theorem reads_finisher {s : Pkg} {Y : Table} {P : List Value → Prop} (h : Reads s Y P) :
    Reads { s with finisher := true } Y P := h


/-! ### the three catalog tables, indexed -/

inductive Cat
  | tables | columns | validation
  deriving DecidableEq

def Cat.name : Cat → List Char
  | .tables => Gen.nameTables.toList
  | .columns => Gen.nameColumns.toList
  | .validation => Gen.nameValidation.toList

def Cat.table (long : Bool) : Cat → Table
  | .tables => Catalog.tablesTable long
  | .columns => Catalog.columnsTable long
  | .validation => Catalog.validationTable long

/-- the value rows the definition `t` contributes to a catalog table -/
def Cat.rowsOf : Cat → Table → List (List Value)
  | .tables, t => [[.str t.name]]
  | .columns, t => colRowsOf t
  | .validation, t => valRowsOf t

theorem Cat.table_name (long : Bool) (k : Cat) : (k.table long).name = k.name := by cases k <;> rfl

theorem Cat.name_inj {k k' : Cat} : k.name = k'.name → k = k' := by cases k <;> cases k' <;> decide

theorem Cat.name_ne {k k' : Cat} (h : k ≠ k') : k.name ≠ k'.name := mt Cat.name_inj h

theorem Cat.isCatalogName (k : Cat) : isCatalogName k.name = true := by cases k <;> decide

theorem Cat.mem_catalogTables (long : Bool) (k : Cat) : k.table long ∈ catalogTables long := by
  cases k <;> simp [catalogTables, Cat.table]

theorem rows_iff {s : Pkg} {tabs : List Table} :
    Rows s tabs ↔ ∀ k : Cat, Reads s (k.table s.pool.longRefs) (fun v => ∃ t ∈ tabs, v ∈ k.rowsOf t) := by
  have e : ∀ v, (∃ t ∈ tabs, v = [Value.str t.name]) ↔ ∃ t ∈ tabs, v ∈ Cat.rowsOf .tables t := by
    simp only [Cat.rowsOf, List.mem_singleton, implies_true]
  constructor
  · intro h k
    cases k
    · obtain ⟨rows, hl, hm⟩ := h.rowsT
      exact ⟨rows, hl, fun v => (hm v).trans (e v)⟩
    · exact h.rowsC
    · exact h.rowsV
  · intro h
    refine ⟨?_, h .columns, h .validation⟩
    obtain ⟨rows, hl, hm⟩ := h .tables
    exact ⟨rows, hl, fun v => (hm v).trans (e v).symm⟩

theorem rows_transfer {s s' : Pkg} {tabs : List Table} (h : Rows s tabs) (hlong : s'.pool.longRefs = s.pool.longRefs)
    (hr : ∀ (k : Cat) P, Reads s (k.table s.pool.longRefs) P → Reads s' (k.table s.pool.longRefs) P) : Rows s' tabs :=
  rows_iff.mpr fun k => by rw [hlong]; exact hr k _ (rows_iff.mp h k)


/-! ### adding the new table to the table list -/

theorem cellsOfTables_perm (s : Pkg) {a b : List Table} (h : a.Perm b) :
    (cellsOfTables s a).Perm (cellsOfTables s b) := by
  unfold cellsOfTables
  exact (h.map _).flatten

theorem mem_insertTable (tabs : List Table) (n : Table) (hnew : ∀ x ∈ tabs, x.name ≠ n.name) (t : Table) :
    t ∈ insertTable tabs n ↔ t = n ∨ t ∈ tabs := by
  rw [(insertTable_perm_cons tabs n hnew).mem_iff]; simp

theorem forall_mem_insertTable {tabs : List Table} {n : Table} (hnew : ∀ x ∈ tabs, x.name ≠ n.name) {Q : Table → Prop} :
    (∀ t ∈ insertTable tabs n, Q t) ↔ Q n ∧ ∀ t ∈ tabs, Q t := by
  simp only [mem_insertTable tabs n hnew, forall_eq_or_imp]

theorem exists_insertTable (tabs : List Table) (n : Table) (hnew : ∀ x ∈ tabs, x.name ≠ n.name) (Q : Table → Prop) :
    (∃ t ∈ insertTable tabs n, Q t) ↔ ((∃ t ∈ tabs, Q t) ∨ Q n) := by
  simp only [mem_insertTable tabs n hnew, exists_eq_or_imp, or_comm]

/-- the state with one more (still empty) table in its list -/
def withTable (s : Pkg) (t : Table) : Pkg := { s with tables := insertTable s.tables t }

theorem loadRows_withTable (s : Pkg) (t x : Table) : (withTable s t).loadRows x = s.loadRows x := rfl

theorem loadRows_of_find_none {s : Pkg} {t : Table} (h : Cont.find s.cont t.streamName = none) : s.loadRows t = .ok [] := by
  unfold Pkg.loadRows; rw [h]; rfl

theorem find_none_of_dataOf {c : List Entry} {n : List Char} (h : dataOf c n = none) : Cont.find c n = none :=
  Option.map_eq_none_iff.mp h

theorem inv_add_table (slack : Nat → Nat) (s : Pkg) (hI : Inv slack s) (t : Table)
    (hnew : ∀ x ∈ s.tables, x.name ≠ t.name)
    (hkey : ∀ x ∈ s.tables, key t.streamName ≠ key x.streamName)
    (hempty : Cont.find s.cont t.streamName = none)
    (hlong : s.pool.longRefs = t.longRefs) (hpos : 0 < t.rowSize) : Inv slack (withTable s t) := by
  have hperm := insertTable_perm_cons s.tables t hnew
  have hload : s.loadRows t = .ok [] := loadRows_of_find_none hempty
  have hcells : (cellsOfTables (withTable s t) (withTable s t).tables).Perm (cellsOfTables s s.tables) := by
    have h1 : cellsOfTables (withTable s t) (withTable s t).tables = cellsOfTables s (insertTable s.tables t) := rfl
    rw [h1]
    refine (cellsOfTables_perm s hperm).trans ?_
    unfold cellsOfTables
    simp only [List.map_cons, List.flatten_cons, rowsOf, hload, List.flatten_nil, List.nil_append]
    exact List.Perm.refl _
  refine ⟨?_, (forall_mem_insertTable hnew).mpr ⟨⟨[], hload⟩, hI.loads⟩, fun r hr => hI.pos r (hcells.mem_iff.mp hr),
    accountedWith_perm hcells.symm hI.counts, hI.sized, (forall_mem_insertTable hnew).mpr ⟨⟨hlong, hpos⟩, hI.widths⟩⟩
  show (insertTable s.tables t).Pairwise _
  rw [hperm.pairwise_iff (fun {a b} h e => h e.symm)]
  exact List.pairwise_cons.mpr ⟨hkey, hI.distinct⟩

theorem sorted_add_table (s : Pkg) (hS : SortedAll s) (t : Table) (hnew : ∀ x ∈ s.tables, x.name ≠ t.name)
    (hempty : Cont.find s.cont t.streamName = none) : SortedAll (withTable s t) := by
  refine (forall_mem_insertTable hnew).mpr ⟨fun rows hl => ?_, hS⟩
  rw [loadRows_withTable, loadRows_of_find_none hempty] at hl
  cases hl
  exact List.Pairwise.nil

theorem reads_withTable {s : Pkg} {t Y : Table} {P : List Value → Prop} (h : Reads s Y P) :
    Reads (withTable s t) Y P := h


/-! ### the rows `create_table` inserts are the catalog rows of the new table -/

theorem colRows_new (name : List Char) (cols : List Column) (long : Bool) (hn : name ≠ [])
    (hc : ∀ c ∈ cols, c.name ≠ []) :
    (catalogRowsColumns name cols).map (fun r => r.map storable) = colRowsOf ⟨name, cols, long⟩ := by
  unfold catalogRowsColumns colRowsOf entriesOf
  simp only [List.map_map]
  apply List.map_congr_left
  intro x hx
  obtain ⟨c, i⟩ := x
  have hcm : c ∈ cols := (List.mem_zipIdx hx).2.2 ▸ List.getElem_mem _
  simp only [Function.comp, List.map_cons, List.map_nil, storable_str_ne name hn, storable_str_ne c.name (hc c hcm),
    bitfieldValue_eq, storable_int]

theorem tabRows_new (name : List Char) (hn : name ≠ []) :
    ([[Value.str name]] : List (List Value)).map (fun r => r.map storable) = [[Value.str name]] := by
  simp [storable_str_ne name hn]

theorem valRows_new (name : List Char) (cols : List Column) (long : Bool) :
    (catalogRowsValidation name cols).map (fun r => r.map storable) = valRowsOf ⟨name, cols, long⟩ := by
  unfold valRowsOf
  simp only
  induction cols with
  | nil => rfl
  | cons c rest ih =>
    have h1 : catalogRowsValidation name (c :: rest) = catalogRowsValidation name [c] ++ catalogRowsValidation name rest := by
      unfold catalogRowsValidation; rfl
    rw [h1, List.map_append, ih]
    simp only [List.map_cons]
    congr 1

theorem findTable_none_ne (s : Pkg) (n : List Char) (h : s.findTable n = none) : ∀ x ∈ s.tables, x.name ≠ n := by
  intro x hx e
  unfold Pkg.findTable at h
  have := List.find?_eq_none.mp h x hx
  simp [e] at this

theorem find_insertTable_other (ts : List Table) (t : Table) (n : List Char) (hne : t.name ≠ n)
    (hnew : ∀ x ∈ ts, x.name ≠ t.name) :
    (insertTable ts t).find? (·.name == n) = ts.find? (·.name == n) := by
  have htn : (t.name == n) = false := beq_false_of_ne hne
  induction ts with
  | nil => simp only [insertTable, List.find?_cons, htn, List.find?_nil]
  | cons x rest ih =>
    simp only [insertTable]
    split
    · rw [List.find?_cons, htn]
    · rw [if_neg (by simpa using fun e => hnew x List.mem_cons_self e.symm), List.find?_cons, List.find?_cons,
        ih fun y hy => hnew y (List.mem_cons_of_mem _ hy)]


/-! ### what `create_table` checked -/

theorem nodup_of_no_dups (l : List (List Char)) (h : hasDuplicateNames l = false) : l.Nodup := by
  induction l with
  | nil => exact List.nodup_nil
  | cons x rest ih =>
    simp only [hasDuplicateNames, Bool.or_eq_false_iff] at h
    exact List.nodup_cons.mpr ⟨by simpa using h.1, ih h.2⟩

theorem identifier_ne_nil (n : List Char) (h : Category.validate .identifier n = true) : n ≠ [] := by
  rintro rfl
  exact absurd h (by decide)

structure CreateFacts (s : Pkg) (name : List Char) (cols : List Column) : Prop where
  validName : Table.isValidName name = true
  notPool : isPoolName name = false
  nonempty : cols ≠ []
  colNames : ∀ c ∈ cols, c.name ≠ []
  colNodup : (cols.map fun (c : Column) => c.name).Nodup
  fresh : s.findTable name = none
  storable : ∀ c ∈ cols, isStorable c = true
  small : cols.length < 2147483647
  fkOk : ∀ c ∈ cols, ∀ t i, c.foreignKey = some (t, i) → t ≠ []

theorem fk_of_valid (name : List Char) (cols : List Column)
    (h : rowsValidFor (Catalog.validationTable false) (catalogRowsValidation name cols) = true) :
    ∀ c ∈ cols, ∀ t i, c.foreignKey = some (t, i) → t ≠ [] := by
  intro c hc t i hfk ht
  subst ht
  unfold rowsValidFor catalogRowsValidation at h
  rw [List.all_map] at h
  have := List.all_eq_true.mp h c hc
  -- the sixth column, `KeyTable`, is an identifier column: it refuses the empty string
  simp only [Function.comp, hfk, Catalog.validationTable, Catalog.validationColumns, List.zip_cons_cons, List.all_cons,
    Bool.and_eq_true] at this
  exact absurd this.2.2.2.2.2.1 (by decide)

theorem createError_facts (s : Pkg) (name : List Char) (cols : List Column) (h : createError s name cols = none) :
    CreateFacts s name cols := by
  obtain ⟨h1, hres, h2, h3, -, h5, h6, h7, h8, -, -, h11⟩ := MsiProofs.Exec.createError_eq_none.mp h
  have e32 : Gen.maxTableColumns = 32 := rfl
  refine ⟨h1, hres, by simpa [List.isEmpty_iff] using h2, ?_, nodup_of_no_dups _ h6, h7, ?_, by rw [e32] at h3; omega,
    fk_of_valid name cols h11⟩
  · intro c hc
    exact identifier_ne_nil _ (by simpa using List.any_eq_false.mp h5 c hc)
  · intro c hc
    simpa using List.any_eq_false.mp h8 c hc

theorem width_pos (long : Bool) (ty : ColType) : 0 < ty.width long := by
  cases ty <;> simp [ColType.width] <;> split <;> omega

theorem rowSize_pos (t : Table) (h : t.columns ≠ []) : 0 < t.rowSize := by
  unfold Table.rowSize
  cases hc : t.columns with
  | nil => exact absurd hc h
  | cons c rest =>
    simp only [List.map_cons, List.sum_cons]
    have := width_pos t.longRefs c.coltype
    omega

/-! ### an accepted insert into a catalog table, stage by stage -/

theorem stage_op (slack : Nat → Nat) (s : Pkg) (hI : Inv slack s) (hS : SortedAll s) (op : MsiProofs.GlobalInvUpd.Op)
    (X : Table) (hX : s.findTable (target op) = some X) :
    Inv slack (op.run s) ∧ SortedAll (op.run s) ∧ Kept s (op.run s) (target op) ∧
    (∀ n, key X.streamName ≠ key n → dataOf (op.run s).cont n = dataOf s.cont n) := by
  obtain ⟨hi', hs'⟩ := MsiProofs.SortUpd.history_sorted slack [op] s hI hS
  refine ⟨hi', hs', op_kept slack s hI op, fun n hn => ?_⟩
  cases op with
  | insert t rows => exact MsiProofs.StreamsMap.dataOf_of_shape (MsiProofs.StreamsMap.insertExec_shape s t rows) hX hn
  | delete t cond => exact MsiProofs.StreamsMap.dataOf_of_shape (MsiProofs.StreamsMap.deleteExec_shape s t cond) hX hn
  | update t ups cond =>
    exact MsiProofs.StreamsMap.dataOf_of_shape (MsiProofs.StreamsMap.updateExec_shape s t ups cond) hX hn

theorem stage_insert (slack : Nat → Nat) (s : Pkg) (hI : Inv slack s) (hS : SortedAll s) (tn : List Char)
    (R : List (List Value)) (s' : Pkg) (h : insertRows s tn R = (s', .ok ())) (X : Table)
    (hX : s.findTable tn = some X) :
    Inv slack s' ∧ SortedAll s' ∧ s'.tables = s.tables ∧ s'.pool.longRefs = s.pool.longRefs ∧
    (∀ P, Reads s X P → Reads s' X (fun v => P v ∨ v ∈ R.map (fun r => r.map storable))) ∧
    (∀ Y ∈ s.tables, Y.name ≠ tn → ∀ P, Reads s Y P → Reads s' Y P) ∧
    (∀ n, key X.streamName ≠ key n → dataOf s'.cont n = dataOf s.cont n) := by
  have hIA := inv_finisher slack s hI
  obtain ⟨hi', hs', hk, hfr⟩ := stage_op slack _ hIA (sorted_finisher s hS) (.insert tn R) X hX
  obtain rfl : (insertRows s tn R).1 = s' := congrArg Prod.fst h
  exact ⟨hi', hs', hk.tables, hk.long, fun P hr => reads_insert slack _ hIA tn R _ h X hX (reads_finisher hr),
    fun Y hY hne P hr => reads_kept hk hY hne (reads_finisher hr), hfr⟩


/-- every invariant of a package, with the catalog part in membership form (all but "the
`_Validation` table is one of the tables", which `Package::create` establishes last) -/
structure Core (slack : Nat → Nat) (s : Pkg) (tabs : List Table) : Prop where
  inv : Inv slack s
  sorted : SortedAll s
  metaSync : MsiProofs.Synced.Synced s
  sep : MsiProofs.Synced.TablesSeparate s
  rows : Rows s tabs
  tables : s.tables = insertTable (insertTable tabs (Catalog.tablesTable s.pool.longRefs))
    (Catalog.columnsTable s.pool.longRefs)
  tsorted : NameSorted tabs
  names : (tabs.map fun (t : Table) => t.name).Nodup
  ok : ∀ t ∈ tabs, (∀ c ∈ t.columns, ColOk c) ∧ t.columns ≠ [] ∧ t.longRefs = s.pool.longRefs ∧
    (t.columns.map fun (c : Column) => c.name).Nodup
  small : ∀ t ∈ tabs, t.columns.length < 2147483647
  namesOk : NamesOk tabs
  valid : ∀ t ∈ tabs, StreamName.isValid t.name true = true
  notCat : ∀ t ∈ tabs, t.name ≠ Gen.nameTables.toList ∧ t.name ≠ Gen.nameColumns.toList

theorem Core.perm {slack : Nat → Nat} {s : Pkg} {tabs : List Table} (h : Core slack s tabs) :
    s.tables.Perm (Catalog.columnsTable s.pool.longRefs :: Catalog.tablesTable s.pool.longRefs :: tabs) := by
  rw [h.tables]
  have hT : ∀ t ∈ tabs, t.name ≠ (Catalog.tablesTable s.pool.longRefs).name := fun t ht => (h.notCat t ht).1
  exact (insertTable_perm_cons _ (Catalog.columnsTable s.pool.longRefs) ((forall_mem_insertTable hT).mpr
    ⟨Cat.name_ne (by decide : Cat.tables ≠ Cat.columns), fun x hx => (h.notCat x hx).2⟩)).trans
    ((insertTable_perm_cons tabs _ hT).cons _)

theorem Core.names_nodup {slack : Nat → Nat} {s : Pkg} {tabs : List Table} (h : Core slack s tabs) :
    (s.tables.map fun (t : Table) => t.name).Nodup := by
  rw [(h.perm.map _).nodup_iff]
  simp only [List.map_cons, List.nodup_cons, List.mem_cons, List.mem_map, not_or, not_exists, not_and]
  refine ⟨⟨Cat.name_ne (by decide : Cat.columns ≠ Cat.tables), fun t ht => (h.notCat t ht).2⟩, fun t ht => (h.notCat t ht).1, h.names⟩

theorem Core.find {slack : Nat → Nat} {s : Pkg} {tabs : List Table} (h : Core slack s tabs) (t : Table)
    (ht : t ∈ s.tables) : s.findTable t.name = some t :=
  find?_key Table.name s.tables h.names_nodup t ht

theorem Core.mem {slack : Nat → Nat} {s : Pkg} {tabs : List Table} (h : Core slack s tabs) (t : Table) :
    t ∈ s.tables ↔ t = Catalog.columnsTable s.pool.longRefs ∨ t = Catalog.tablesTable s.pool.longRefs ∨ t ∈ tabs := by
  rw [h.perm.mem_iff]; simp


/-- the catalog tables are tables of the package (`_Validation` once it has been created) -/
theorem Core.catalog {slack : Nat → Nat} {s : Pkg} {tabs : List Table} (h : Core slack s tabs) (k : Cat)
    (hk : k = .validation → Catalog.validationTable s.pool.longRefs ∈ tabs) : k.table s.pool.longRefs ∈ s.tables := by
  cases k
  · exact (h.mem _).mpr (Or.inr (Or.inl rfl))
  · exact (h.mem _).mpr (Or.inl rfl)
  · exact (h.mem _).mpr (Or.inr (Or.inr (hk rfl)))

theorem Core.findCat {slack : Nat → Nat} {s : Pkg} {tabs : List Table} (h : Core slack s tabs) (k : Cat)
    (hk : k = .validation → Catalog.validationTable s.pool.longRefs ∈ tabs) :
    s.findTable k.name = some (k.table s.pool.longRefs) :=
  Cat.table_name _ k ▸ h.find _ (h.catalog k hk)

/-- every invariant of a package -/
structure Full (slack : Nat → Nat) (s : Pkg) (tabs : List Table) : Prop where
  core : Core slack s tabs
  hasVal : Catalog.validationTable s.pool.longRefs ∈ tabs

theorem insertTable_comm (ts : List Table) (a b : Table) (hs : NameSorted ts) (ha : ∀ x ∈ ts, x.name ≠ a.name)
    (hb : ∀ x ∈ ts, x.name ≠ b.name) (hab : a.name ≠ b.name) :
    insertTable (insertTable ts a) b = insertTable (insertTable ts b) a := by
  obtain ⟨sa, pa⟩ := insertTable_sorted ts a hs ha
  obtain ⟨sb, pb⟩ := insertTable_sorted ts b hs hb
  obtain ⟨sab, pab⟩ := insertTable_sorted _ b sa ((forall_mem_insertTable ha).mpr ⟨hab, hb⟩)
  obtain ⟨sba, pba⟩ := insertTable_sorted _ a sb ((forall_mem_insertTable hb).mpr ⟨fun e => hab e.symm, ha⟩)
  exact nameSorted_unique _ _ sab sba
    ((pab.trans (pa.cons b)).trans ((List.Perm.swap a b ts).trans (pb.cons a).symm |>.trans pba.symm))

theorem catalog_valid (long : Bool) : StreamName.isValid (Catalog.columnsTable long).name true = true ∧
    StreamName.isValid (Catalog.tablesTable long).name true = true := by
  constructor
  · show StreamName.isValid Gen.nameColumns.toList true = true; decide
  · show StreamName.isValid Gen.nameTables.toList true = true; decide

theorem Core.valid_all {slack : Nat → Nat} {s : Pkg} {tabs : List Table} (h : Core slack s tabs) :
    ∀ x ∈ s.tables, StreamName.isValid x.name true = true := by
  intro x hx
  rcases (h.mem x).mp hx with rfl | rfl | hx'
  · exact (catalog_valid _).1
  · exact (catalog_valid _).2
  · exact h.valid x hx'

theorem findTable_congr {a b : Pkg} (h : b.tables = a.tables) (n : List Char) : b.findTable n = a.findTable n := by
  unfold Pkg.findTable; rw [h]

/-- **`create_table` keeps every invariant** and extends the catalog invariant by the new definition
(the new table's stream must not already exist in the container) -/
theorem createTable_core (slack : Nat → Nat) (s : Pkg) (tabs : List Table) (hF : Core slack s tabs)
    (name : List Char) (cols : List Column) (s4 : Pkg)
    (h : createTable s name cols = (s4, .ok ()))
    (hfresh : dataOf s.cont (StreamName.encode name true) = none)
    (hV : Catalog.validationTable s.pool.longRefs ∈ tabs ∨
      (name = Gen.nameValidation.toList ∧ cols = Catalog.validationColumns)) :
    Core slack s4 (insertTable tabs ⟨name, cols, s.pool.longRefs⟩) ∧ s4.pool.longRefs = s.pool.longRefs ∧
      (∀ x ∈ tabs, x.name ≠ name) := by
  have hgood := MsiProofs.Synced.good_createTable s hF.sep name cols
  rw [h] at hgood
  obtain ⟨hce, s1, s2, hr1, hr2, h⟩ := MsiProofs.Exec.createTable_ok h
  have hf := createError_facts s name cols hce
  have hvn := hf.validName
  simp only [Table.isValidName, Bool.and_eq_true] at hvn
  have hname : name ≠ [] := identifier_ne_nil name hvn.1
  have hnew : ∀ x ∈ s.tables, x.name ≠ name := findTable_none_ne s name hf.fresh
  have hct := hF.catalog .columns nofun
  have htt := hF.catalog .tables nofun
  have hnC : name ≠ Gen.nameColumns.toList := fun e => hnew _ hct e.symm
  have hnT : name ≠ Gen.nameTables.toList := fun e => hnew _ htt e.symm
  have hnewTabs : ∀ x ∈ tabs, x.name ≠ name := fun x hx => hnew x ((hF.mem x).mpr (Or.inr (Or.inr hx)))
  have hkey : ∀ x ∈ s.tables, key (StreamName.encode name true) ≠ key x.streamName := fun x hx e =>
    hnew x hx (MsiProofs.Synced.table_stream_injective name x.name hvn.2 (hF.valid_all x hx) e).symm
  -- the inserts into `_Columns` and `_Tables`
  obtain ⟨hI1, hS1, ht1, hl1, hrX1, hrY1, hc1⟩ :=
    stage_insert slack s hF.inv hF.sorted _ _ s1 hr1 _ (hF.findCat .columns nofun)
  obtain ⟨hI2, hS2, ht2, hl2, hrX2, hrY2, hc2⟩ := stage_insert slack s1 hI1 hS1 _ _ s2 hr2 _
    ((findTable_congr ht1 _).trans (hF.findCat .tables nofun))
  have hT2 : s2.tables = s.tables := ht2.trans ht1
  have hL2 : s2.pool.longRefs = s.pool.longRefs := hl2.trans hl1
  rw [hL2] at h
  have hempty2 : Cont.find s2.cont (StreamName.encode name true) = none := by
    apply find_none_of_dataOf
    rw [hc2 _ (fun e => hkey _ htt e.symm), hc1 _ (fun e => hkey _ hct e.symm)]
    exact hfresh
  have hnew2 : ∀ x ∈ s2.tables, x.name ≠ name := hT2 ▸ hnew
  have hI3 := inv_add_table slack s2 hI2 ⟨name, cols, s.pool.longRefs⟩ hnew2 (hT2 ▸ hkey) hempty2 hL2
    (rowSize_pos ⟨name, cols, s.pool.longRefs⟩ hf.nonempty)
  have hS3 := sorted_add_table s2 hS2 ⟨name, cols, s.pool.longRefs⟩ hnew2 hempty2
  have hmem3 : ∀ x ∈ s.tables, x ∈ (withTable s2 ⟨name, cols, s.pool.longRefs⟩).tables := fun x hx => by
    show x ∈ insertTable s2.tables _
    rw [hT2]
    exact (mem_insertTable s.tables _ hnew x).mpr (Or.inr hx)
  -- `_Validation`, as found and as read just before the last insert: it is a table by now, the new one or an old one
  have hXv3 : (withTable s2 ⟨name, cols, s.pool.longRefs⟩).findTable Gen.nameValidation.toList =
      some (Catalog.validationTable s.pool.longRefs) := by
    refine find?_key Table.name (insertTable s2.tables _) ?_ (Catalog.validationTable s.pool.longRefs) ?_
    · rw [((insertTable_perm_cons _ _ hnew2).map _).nodup_iff]
      exact List.nodup_cons.mpr ⟨fun hm => by
        obtain ⟨x, hx, e⟩ := List.mem_map.mp hm
        exact hnew2 x hx e, hT2 ▸ hF.names_nodup⟩
    · rcases hV with hV | ⟨rfl, rfl⟩
      · exact hmem3 _ (hF.catalog .validation fun _ => hV)
      · exact (mem_insertTable s2.tables _ hnew2 _).mpr (Or.inl rfl)
  have r2V : Reads (withTable s2 ⟨name, cols, s.pool.longRefs⟩) (Catalog.validationTable s.pool.longRefs)
      (fun v => ∃ t ∈ tabs, v ∈ valRowsOf t) := by
    rcases hV with hV | ⟨rfl, rfl⟩
    · have hvt := hF.catalog .validation fun _ => hV
      exact hrY2 _ (ht1 ▸ hvt) (Cat.name_ne (by decide : Cat.validation ≠ Cat.tables)) _
        (hrY1 _ hvt (Cat.name_ne (by decide : Cat.validation ≠ Cat.columns)) _ hF.rows.rowsV)
    · -- `_Validation` itself is being created: its stream is absent, before and now
      obtain ⟨rows0, hl0, hm0⟩ := hF.rows.rowsV
      obtain rfl : rows0 = [] := Res.ok.inj (hl0.symm.trans (loadRows_of_find_none (find_none_of_dataOf hfresh)))
      exact ⟨[], loadRows_of_find_none (s := s2) (t := Catalog.validationTable s.pool.longRefs) hempty2, hm0⟩
  obtain ⟨hI4, hS4, ht4, hl4, hrX4, hrY4, hc4⟩ :=
    stage_insert slack (withTable s2 ⟨name, cols, s.pool.longRefs⟩) hI3 hS3 _ _ s4 h _ hXv3
  have hL4 : s4.pool.longRefs = s.pool.longRefs := hl4.trans hL2
  have hT4 : s4.tables = insertTable s.tables ⟨name, cols, s.pool.longRefs⟩ := by
    rw [ht4]; show insertTable s2.tables _ = _; rw [hT2]
  refine ⟨?_, hL4, hnewTabs⟩
  refine ⟨hI4, hS4, MsiProofs.Synced.synced_of_effect s s4 hF.metaSync hgood.effect, hgood.sep hF.sep, ?_, ?_,
    (insertTable_sorted tabs _ hF.tsorted hnewTabs).1, ?_,
    (forall_mem_insertTable hnewTabs).mpr
      ⟨⟨fun c hc => ⟨hf.storable c hc, hf.fkOk c hc⟩, hf.nonempty, hL4.symm, hf.colNodup⟩, hL4 ▸ hF.ok⟩,
    (forall_mem_insertTable hnewTabs).mpr ⟨hf.small, hF.small⟩,
    (forall_mem_insertTable hnewTabs).mpr ⟨⟨hname, hf.colNames⟩, hF.namesOk⟩,
    (forall_mem_insertTable hnewTabs).mpr ⟨hvn.2, hF.valid⟩,
    (forall_mem_insertTable hnewTabs).mpr ⟨⟨hnT, hnC⟩, hF.notCat⟩⟩
  · -- the catalog rows: each catalog table reads what it read, plus what its own insert added
    refine ⟨?_, ?_, ?_⟩
    · obtain ⟨rows, hl, hm⟩ := hrY4 _ (hmem3 _ htt) (Cat.name_ne (by decide : Cat.tables ≠ Cat.validation)) _
        (reads_withTable (t := ⟨name, cols, s.pool.longRefs⟩)
          (hrX2 _ (hrY1 _ htt (Cat.name_ne (by decide : Cat.tables ≠ Cat.columns)) _ hF.rows.rowsT)))
      refine ⟨rows, hL4 ▸ hl, fun v => (hm v).trans ?_⟩
      rw [exists_insertTable tabs _ hnewTabs, tabRows_new name hname]
      simp
    · obtain ⟨rows, hl, hm⟩ := hrY4 _ (hmem3 _ hct) (Cat.name_ne (by decide : Cat.columns ≠ Cat.validation)) _
        (reads_withTable (t := ⟨name, cols, s.pool.longRefs⟩)
          (hrY2 _ (ht1 ▸ hct) (Cat.name_ne (by decide : Cat.columns ≠ Cat.tables)) _ (hrX1 _ hF.rows.rowsC)))
      refine ⟨rows, hL4 ▸ hl, fun v => (hm v).trans ?_⟩
      rw [exists_insertTable tabs _ hnewTabs, colRows_new name cols s.pool.longRefs hname hf.colNames]
    · obtain ⟨rows, hl, hm⟩ := hrX4 _ r2V
      refine ⟨rows, hL4 ▸ hl, fun v => (hm v).trans ?_⟩
      rw [exists_insertTable tabs _ hnewTabs, valRows_new name cols s.pool.longRefs]
  · -- the table list: the new table is inserted below the two built-in ones
    rw [hT4, hL4, hF.tables]
    have hT : ∀ x ∈ tabs, x.name ≠ (Catalog.tablesTable s.pool.longRefs).name := fun x hx => (hF.notCat x hx).1
    rw [insertTable_comm _ (Catalog.columnsTable s.pool.longRefs) ⟨name, cols, s.pool.longRefs⟩
        (insertTable_sorted tabs _ hF.tsorted hT).1
        ((forall_mem_insertTable hT).mpr ⟨Cat.name_ne (by decide : Cat.tables ≠ Cat.columns), fun x hx => (hF.notCat x hx).2⟩)
        ((forall_mem_insertTable hT).mpr ⟨fun e => hnT e.symm, hnewTabs⟩) (fun e => hnC e.symm),
      insertTable_comm tabs (Catalog.tablesTable s.pool.longRefs) ⟨name, cols, s.pool.longRefs⟩ hF.tsorted hT hnewTabs
        (fun e => hnT e.symm)]
  · rw [((insertTable_perm_cons tabs _ hnewTabs).map _).nodup_iff]
    exact List.nodup_cons.mpr ⟨fun hm => by
      obtain ⟨x, hx, e⟩ := List.mem_map.mp hm
      exact hnewTabs x hx e, hF.names⟩


/-- **`create_table` keeps every invariant** and extends the catalog invariant by the new definition -/
theorem createTable_full (slack : Nat → Nat) (s : Pkg) (tabs : List Table) (hF : Full slack s tabs)
    (name : List Char) (cols : List Column) (s4 : Pkg)
    (h : createTable s name cols = (s4, .ok ()))
    (hfresh : dataOf s.cont (StreamName.encode name true) = none) :
    Full slack s4 (insertTable tabs ⟨name, cols, s.pool.longRefs⟩) := by
  obtain ⟨hc, hL4, hnewTabs⟩ := createTable_core slack s tabs hF.core name cols s4 h hfresh (Or.inl hF.hasVal)
  refine ⟨hc, ?_⟩
  rw [hL4]
  exact (mem_insertTable tabs _ hnewTabs _).mpr (Or.inr hF.hasVal)

end MsiProofs.CreateTable
