import MsiProofs.Lemmas.FullHistory
/-
The state `Package::create` builds satisfies every invariant (non-vacuity of the invariants, and
the base case of "every package made with the library reopens as it was").
-/
namespace MsiProofs.Created
open MsiModel MsiModel.Bytes MsiModel.Pkg MsiProofs.CatalogOpen MsiProofs.CatalogCodec MsiProofs.CatalogSync
open MsiProofs.GlobalInv MsiProofs.SortedInv MsiProofs.CatalogRows MsiProofs.Frame MsiProofs.Refine
open MsiProofs.SaveOpen MsiProofs.CreateTable MsiProofs.FullHistory

/-- the state `create` starts from: an empty container, a fresh pool, the two built-in tables -/
def base (ptype : Nat) (summary : PropSet) : Pkg :=
  ⟨ptype, [], summary, true, Pool.new summary.codepage,
    insertTable (insertTable [] (Catalog.tablesTable false)) (Catalog.columnsTable false), false⟩

theorem base_tables (ptype : Nat) (summary : PropSet) :
    (base ptype summary).tables = [Catalog.columnsTable false, Catalog.tablesTable false] := by
  show insertTable (insertTable [] (Catalog.tablesTable false)) (Catalog.columnsTable false) = _
  decide

theorem base_loads (ptype : Nat) (summary : PropSet) (t : Table) : (base ptype summary).loadRows t = .ok [] := rfl

theorem base_cells (ptype : Nat) (summary : PropSet) (ts : List Table) : cellsOfTables (base ptype summary) ts = [] := by
  unfold cellsOfTables
  induction ts with
  | nil => rfl
  | cons t rest ih =>
    simp only [List.map_cons, List.flatten_cons, ih, List.append_nil]
    rfl

theorem base_reads (ptype : Nat) (summary : PropSet) (X : Table) (Q : Table → List Value → Prop) :
    Reads (base ptype summary) X (fun v => ∃ t ∈ ([] : List Table), Q t v) :=
  ⟨[], rfl, fun v => by simp⟩

theorem base_core (ptype : Nat) (summary : PropSet) : Core (fun _ => 0) (base ptype summary) [] := by
  have hsep : MsiProofs.Synced.TablesSeparate (base ptype summary) := fun t ht =>
    catalog_notMeta false t (by
      rw [base_tables] at ht
      rcases List.mem_cons.mp ht with rfl | ht
      · exact List.mem_cons_of_mem _ List.mem_cons_self
      · exact List.mem_singleton.mp ht ▸ List.mem_cons_self)
  refine ⟨⟨?_, fun t _ => ⟨[], rfl⟩, ?_, ?_, ?_, ?_⟩, ?_, ?_, hsep, ?_, rfl, List.Pairwise.nil, List.nodup_nil,
    nofun, nofun, nofun, nofun, nofun⟩
  · rw [base_tables]; decide
  · rw [base_cells]; intro r hr; cases hr
  · rw [base_cells]; intro r _; rfl
  · show (0 : Nat) ≤ 65535; omega
  · intro t ht
    rw [base_tables] at ht
    simp only [List.mem_cons, List.mem_nil_iff, or_false] at ht
    rcases ht with rfl | rfl
    · exact ⟨rfl, rowSize_pos _ (by decide)⟩
    · exact ⟨rfl, rowSize_pos _ (by decide)⟩
  · intro t _ rows hl
    rw [base_loads] at hl
    cases hl
    simp [KeysAscending]
  · exact ⟨fun h => (by cases h), fun h => (by cases h)⟩
  · exact ⟨base_reads ptype summary _ _, base_reads ptype summary _ _, base_reads ptype summary _ _⟩

theorem base_noOrphans (ptype : Nat) (summary : PropSet) : NoOrphans (base ptype summary) := by
  refine ⟨?_, ?_⟩
  · intro t ht
    rw [base_tables] at ht
    simp only [List.mem_cons, List.mem_nil_iff, or_false] at ht
    rcases ht with rfl | rfl
    · exact (catalog_valid false).1
    · exact (catalog_valid false).2
  · intro n _ _ hd
    exact absurd rfl hd

/-- **the package `create` builds** (before its first flush) satisfies every invariant: the catalog
holds exactly the definition of `_Validation`, every count is exact, nothing is orphaned -/
theorem created_full (ptype : Nat) (summary : PropSet) (s1 : Pkg)
    (h : createTable (base ptype summary) Gen.nameValidation.toList Catalog.validationColumns = (s1, .ok ())) :
    Full (fun _ => 0) s1 [Catalog.validationTable false] ∧ NoOrphans s1 := by
  obtain ⟨hc, hL, -⟩ := createTable_core (fun _ => 0) (base ptype summary) [] (base_core ptype summary)
    Gen.nameValidation.toList Catalog.validationColumns s1 h rfl (Or.inr ⟨rfl, rfl⟩)
  have hno := noOrphans_createTable (base ptype summary) (base_noOrphans ptype summary)
    Gen.nameValidation.toList Catalog.validationColumns
  rw [h] at hno
  refine ⟨⟨hc, ?_⟩, hno⟩
  rw [hL]
  exact List.mem_singleton.mpr rfl

end MsiProofs.Created
