import MsiProofs.Lemmas.FullHistory
/-
`drop_table` keeps the package invariants and removes the definition from the catalog invariant.
-/
namespace MsiProofs.DropTable
open MsiModel MsiModel.Bytes MsiModel.Pkg MsiProofs.CatalogOpen MsiProofs.CatalogCodec MsiProofs.CatalogSync
open MsiProofs.GlobalInv MsiProofs.SortedInv MsiProofs.CatalogRows MsiProofs.Frame MsiProofs.Refine
open MsiProofs.RefineExact MsiProofs.RefineDelete MsiProofs.SaveOpen MsiProofs.RowsOk
open MsiProofs.CreateTable MsiProofs.FullHistory
open MsiProofs.Relational (condV evalCond_eq)

theorem foldl_rows (rows : List (List Cell)) (p : Pool) :
    rows.foldl (fun p r => r.foldl Cell.remove p) p = rows.flatten.foldl Cell.remove p :=
  List.foldl_flatten.symm

/-- the state after `drop_table` released the table's strings and removed its stream -/
def released (s : Pkg) (t : Table) (rows : List (List Cell)) : Pkg :=
  { s with finisher := true, pool := rows.foldl (fun p r => r.foldl Cell.remove p) s.pool,
           cont := Cont.remove s.cont t.streamName }

theorem release_step {slack : Nat → Nat} (s : Pkg) (t : Table) (rows : List (List Cell)) (hs : PoolSized s.pool)
    (others : List Cell) (hpos : PosRefs (rows.flatten ++ others))
    (hacc : AccountedWith slack s.pool (rows.flatten ++ others)) : StepOn slack s (released s t rows) t others := by
  have hpool : (released s t rows).pool = rows.flatten.foldl Cell.remove s.pool := foldl_rows rows s.pool
  have hempty : (released s t rows).loadRows t = .ok [] :=
    loadRows_of_find_none (find_none_of_dataOf (MsiProofs.StreamsMap.dataOf_remove_same s.cont t.streamName))
  obtain ⟨hsz, hlong⟩ := MsiProofs.Loops.foldl_remove_rel MsiProofs.RowsOk.sized rows.flatten s.pool
  refine ⟨rfl, fun n hn => MsiProofs.Synced.dataOf_remove_other s.cont _ _ hn, ⟨[], hempty⟩, ?_, ?_, fun d hd => ?_,
    hpool ▸ hsz hs, hpool ▸ hlong⟩
  · rw [rowsOf_ok hempty, hpool]
    exact foldl_remove_accountedW slack rows.flatten s.pool [] _ hpos hacc
  · rw [rowsOf_ok hempty]
    exact nofun
  · rw [hpool]
    exact (foldl_remove_accounted rows.flatten s.pool [] _ hpos (hacc.accounted hpos)).2 d hd

/-- **releasing a table**: the invariants hold with the table reading as empty, every other table
reads the same rows with the same values -/
theorem release_stage (slack : Nat → Nat) (s : Pkg) (hI : Inv slack s) (hS : SortedAll s) (t : Table)
    (htm : t ∈ s.tables) (rows : List (List Cell)) (hl : s.loadRows t = .ok rows) :
    Inv slack (released s t rows) ∧ SortedAll (released s t rows) ∧ Kept s (released s t rows) t.name ∧
    (released s t rows).loadRows t = .ok [] := by
  have hstep := fun others hp ha => release_step (slack := slack) s t rows hI.sized others hp ha
  have hempty : (released s t rows).loadRows t = .ok [] :=
    loadRows_of_find_none (find_none_of_dataOf (MsiProofs.StreamsMap.dataOf_remove_same s.cont t.streamName))
  obtain ⟨htabs, hlong, hoth⟩ := step_others hI htm hl hstep
  have hne : ∀ {x : Table}, x.name ≠ t.name → x ≠ t := fun h e => h (e ▸ rfl)
  refine ⟨step_inv hI htm hl hstep, step_sorted hI hS htm hl hstep fun stored hst => ?_,
    ⟨htabs, hlong, fun x hx h => (hoth x hx (hne h)).1, fun x hx h => (hoth x hx (hne h)).2⟩, hempty⟩
  rw [hempty] at hst
  cases hst
  exact List.Pairwise.nil


theorem stage_deleteExec (slack : Nat → Nat) (s : Pkg) (hIA : Inv slack s) (hS : SortedAll s) (tn : List Char)
    (cond : Option Ast) (s' : Pkg) (h : deleteExec s tn cond = (s', .ok ())) (X : Table)
    (hX : s.findTable tn = some X) :
    Inv slack s' ∧ SortedAll s' ∧ s'.tables = s.tables ∧ s'.pool.longRefs = s.pool.longRefs ∧
    (∀ P, Reads s X P → Reads s' X (fun v => P v ∧ condV X cond v = .ok false)) ∧
    (∀ Y ∈ s.tables, Y.name ≠ tn → ∀ P, Reads s Y P → Reads s' Y P) ∧
    (∀ n, key X.streamName ≠ key n → dataOf s'.cont n = dataOf s.cont n) := by
  obtain ⟨hi', hs', hk, hfr⟩ := stage_op slack s hIA hS (.delete tn cond) X hX
  obtain rfl : (deleteExec s tn cond).1 = s' := congrArg Prod.fst h
  have htm := MsiProofs.Synced.findTable_mem hX
  obtain ⟨rows, hl⟩ := hIA.loads X htm
  obtain ⟨others, hposAll, haccAll⟩ := cells_split hIA htm hl
  obtain ⟨hstored, hvals, -⟩ := MsiProofs.RefineLoad.delete_then_load _ tn cond _ h X hX rows hl _ hposAll
    (haccAll.accounted hposAll) (hIA.widths X htm).2
  refine ⟨hi', hs', hk.tables, hk.long, ?_, fun Y hY hne P hr => reads_kept hk hY hne hr, hfr⟩
  intro P ⟨rows0, hl0, hm⟩
  obtain rfl : rows0 = rows := Res.ok.inj (hl0.symm.trans hl)
  refine ⟨_, hstored, fun v => ?_⟩
  have hsame : (rows0.filter fun r => evalCond X s.pool cond r == .ok false).map (rowValues (deleteExec s tn cond).1.pool) =
      (rows0.filter fun r => evalCond X s.pool cond r == .ok false).map (rowValues s.pool) :=
    List.map_congr_left fun r hr => List.map_congr_left fun c hc =>
      hvals c (List.mem_append_left _ (List.mem_flatten.mpr ⟨r, hr, hc⟩))
  rw [hsame]
  simp only [List.mem_map, List.mem_filter, beq_iff_eq]
  constructor
  · rintro ⟨r, ⟨hr, hc⟩, rfl⟩
    exact ⟨(hm _).mp (List.mem_map_of_mem hr), by rw [← evalCond_eq]; exact hc⟩
  · rintro ⟨hp, hc⟩
    obtain ⟨r, hr, rfl⟩ := List.mem_map.mp ((hm v).mpr hp)
    exact ⟨r, ⟨hr, by rw [evalCond_eq]; exact hc⟩, rfl⟩

theorem stage_delete (slack : Nat → Nat) (s : Pkg) (hI : Inv slack s) (hS : SortedAll s) (tn : List Char)
    (cond : Option Ast) (s' : Pkg) (h : deleteRows s tn cond = (s', .ok ())) (X : Table)
    (hX : s.findTable tn = some X) :
    Inv slack s' ∧ SortedAll s' ∧ s'.tables = s.tables ∧ s'.pool.longRefs = s.pool.longRefs ∧
    (∀ P, Reads s X P → Reads s' X (fun v => P v ∧ condV X cond v = .ok false)) ∧
    (∀ Y ∈ s.tables, Y.name ≠ tn → ∀ P, Reads s Y P → Reads s' Y P) ∧
    (∀ n, key X.streamName ≠ key n → dataOf s'.cont n = dataOf s.cont n) :=
  stage_deleteExec slack { s with finisher := true } (inv_finisher slack s hI) (sorted_finisher s hS) tn cond s' h X hX

theorem firstCol_cond (t : Table) (cn : String) (c0 : Column) (rest : List Column) (ht : t.columns = c0 :: rest)
    (hc : c0.name = cn.toList) (name : List Char) (v0 : Value) (vs : List Value) :
    condV t (eqStr cn name) (v0 :: vs) = .ok (v0 == .str name) := by
  unfold condV eqStr
  simp only [Ast.eval, mkRow, ht, List.map_cons, hc, Row.get, Row.indexOf, if_true, List.getElem?_cons_zero,
    bind, Res.bind, pure, BinOp.eval, MsiProofs.C13.fromBool_toBool]

/-! ### the three catalog deletes, and the main theorem -/

theorem cellsOfTables_filter (s : Pkg) (f : Table → Bool) : ∀ ts : List Table,
    (∀ x ∈ ts, f x = false → rowsOf s x = []) → cellsOfTables s (ts.filter f) = cellsOfTables s ts := by
  intro ts
  induction ts with
  | nil => intro _; rfl
  | cons x rest ih =>
    intro h
    have ihr := ih (fun y hy => h y (by simp [hy]))
    unfold cellsOfTables at ihr ⊢
    cases hf : f x with
    | true => simp only [List.filter_cons, hf, if_true, List.map_cons, List.flatten_cons, ihr]
    | false =>
      have := h x (by simp) hf
      simp only [List.filter_cons, hf, Bool.false_eq_true, if_false, List.map_cons, List.flatten_cons, ihr, this,
        List.flatten_nil, List.nil_append]

/-- the state with the table named `name` taken off the list -/
def withoutTable (s : Pkg) (name : List Char) : Pkg := { s with tables := s.tables.filter (·.name != name) }

theorem inv_remove_table (slack : Nat → Nat) (s : Pkg) (hI : Inv slack s) (name : List Char)
    (h : ∀ x ∈ s.tables, x.name = name → s.loadRows x = .ok []) : Inv slack (withoutTable s name) := by
  have hcells : cellsOfTables (withoutTable s name) (withoutTable s name).tables = cellsOfTables s s.tables := by
    show cellsOfTables s (s.tables.filter (·.name != name)) = _
    apply cellsOfTables_filter
    intro x hx hf
    have : x.name = name := by simpa using hf
    exact rowsOf_ok (h x hx this)
  have hsub : ∀ x ∈ (withoutTable s name).tables, x ∈ s.tables := fun x hx => (List.mem_filter.mp hx).1
  refine ⟨hI.distinct.sublist List.filter_sublist, fun x hx => hI.loads x (hsub x hx), ?_, ?_, hI.sized,
    fun x hx => hI.widths x (hsub x hx)⟩
  · rw [hcells]; exact hI.pos
  · rw [hcells]; exact hI.counts

theorem sorted_remove_table (s : Pkg) (hS : SortedAll s) (name : List Char) : SortedAll (withoutTable s name) :=
  fun x hx rows hl => hS x (List.mem_filter.mp hx).1 rows hl


theorem str_beq (a b : List Char) : (Value.str a == Value.str b) = (a == b) := by
  rw [Bool.eq_iff_iff]; simp

theorem valRow_head (tn : List Char) (c : Column) (h : tn ≠ []) : ∃ vs, valRow tn c = .str tn :: vs := by
  unfold valRow catalogRowsValidation
  simp only [List.map_cons, List.map_nil, storable_str_ne tn h]
  exact ⟨_, rfl⟩

theorem filter_rows (tabs : List Table) (name : List Char) (R : Table → List (List Value)) (X : Table)
    (cond : Option Ast) (hc : ∀ t' ∈ tabs, ∀ v ∈ R t', condV X cond v = .ok (t'.name == name)) (v : List Value) :
    ((∃ t' ∈ tabs, v ∈ R t') ∧ condV X cond v = .ok false) ↔
      ∃ t' ∈ tabs.filter (·.name != name), v ∈ R t' := by
  constructor
  · rintro ⟨⟨t', ht', hv⟩, hcond⟩
    rw [hc t' ht' v hv] at hcond
    have : (t'.name == name) = false := by injection hcond
    exact ⟨t', List.mem_filter.mpr ⟨ht', by simp [bne, this]⟩, hv⟩
  · rintro ⟨t', ht', hv⟩
    obtain ⟨h1, h2⟩ := List.mem_filter.mp ht'
    refine ⟨⟨t', h1, hv⟩, ?_⟩
    rw [hc t' h1 v hv]
    have : (t'.name == name) = false := by simpa [bne] using h2
    rw [this]

theorem filter_sorted {ts : List Table} (h : NameSorted ts) (f : Table → Bool) : NameSorted (ts.filter f) :=
  List.Pairwise.sublist List.filter_sublist h

theorem filter_insertTable (ts : List Table) (a : Table) (name : List Char) (hs : NameSorted ts)
    (ha : ∀ x ∈ ts, x.name ≠ a.name) (hne : a.name ≠ name) :
    (insertTable ts a).filter (·.name != name) = insertTable (ts.filter (·.name != name)) a := by
  obtain ⟨s1, p1⟩ := insertTable_sorted ts a hs ha
  have ha' : ∀ x ∈ ts.filter (·.name != name), x.name ≠ a.name := fun x hx => ha x (List.mem_filter.mp hx).1
  obtain ⟨s2, p2⟩ := insertTable_sorted _ a (filter_sorted hs _) ha'
  apply nameSorted_unique _ _ (filter_sorted s1 _) s2
  have hfa : (a :: ts).filter (·.name != name) = a :: ts.filter (·.name != name) := by
    have : (a.name != name) = true := by simpa [bne] using hne
    rw [List.filter_cons, if_pos this]
  exact ((p1.filter _).trans (hfa ▸ List.Perm.refl _)).trans p2.symm

theorem noOrphans_deleteRows (s : Pkg) (h : NoOrphans s) (tn : List Char) (cond : Option Ast) :
    NoOrphans (deleteRows s tn cond).1 :=
  noOrphans_shape _ _ tn (MsiProofs.StreamsMap.deleteExec_shape _ tn cond) (noOrphans_finisher s h)

/-- the column `drop_table` selects the rows of a catalog table by -/
def keyCol : Cat → String
  | .tables => "Name"
  | .columns => "Table"
  | .validation => "Table"

/-- on a catalog row of the definition `t'`, the condition `drop_table` deletes by says whether
`t'` is the dropped table: the row begins with the table's name -/
theorem cond_eq (k : Cat) (L : Bool) (name : List Char) {t' : Table} (hn : t'.name ≠ []) {v : List Value}
    (h : v ∈ k.rowsOf t') : condV (k.table L) (eqStr (keyCol k) name) v = .ok (t'.name == name) := by
  cases k
  · obtain rfl := List.mem_singleton.mp h
    rw [keyCol, Cat.table, firstCol_cond (Catalog.tablesTable L) "Name" _ [] rfl rfl, str_beq]
  · obtain ⟨e, he, rfl⟩ := (mem_colRowsOf t' v).mp h
    obtain ⟨x, -, rfl⟩ := List.mem_map.mp he
    rw [keyCol, Cat.table, firstCol_cond (Catalog.columnsTable L) "Table" _ _ rfl rfl, str_beq]
  · obtain ⟨c, -, rfl⟩ := List.mem_map.mp h
    obtain ⟨vs, hvs⟩ := valRow_head t'.name c hn
    rw [hvs, keyCol, Cat.table, firstCol_cond (Catalog.validationTable L) "Table" _ _ rfl rfl, str_beq]

/-- the tail of `drop_table`, from a state in which the table has no stream (so that it reads as empty) -/
theorem dropTail_spec (slack : Nat → Nat) (s1 : Pkg) (tabs : List Table) (hC : Core slack s1 tabs)
    (hv : Catalog.validationTable s1.pool.longRefs ∈ tabs) (hN : NoOrphans s1)
    (name : List Char) (t : Table) (hf : s1.findTable name = some t) (hres : Catalog.isReserved name = false)
    (hempty : dataOf s1.cont t.streamName = none) {s2 s3 s4 : Pkg}
    (hr2 : deleteValidation s1 name = (s2, .ok ()))
    (hr3 : deleteRows s2 Gen.nameColumns.toList (eqStr "Table" name) = (s3, .ok ()))
    (hr4 : deleteRows s3 Gen.nameTables.toList (eqStr "Name" name) = (s4, .ok ())) :
    Full slack (withoutTable s4 name) (tabs.filter (·.name != name)) ∧ NoOrphans (withoutTable s4 name) := by
  have htm : t ∈ s1.tables := MsiProofs.Synced.findTable_mem hf
  have htn : t.name = name := findTable_name hf
  have hne : ∀ k : Cat, k.name ≠ name := by
    simp only [Catalog.isReserved, Bool.or_eq_false_iff, beq_eq_false_iff_ne, ne_eq] at hres
    intro k e
    cases k
    · exact hres.1.2 e.symm
    · exact hres.1.1 e.symm
    · exact hres.2 e.symm
  have hcat : ∀ k : Cat, k.table s1.pool.longRefs ∈ s1.tables := fun k => hC.catalog k fun _ => hv
  have hfind := fun k : Cat => hC.findCat k fun _ => hv
  have htabs : t ∈ tabs := by
    rcases (hC.mem t).mp htm with rfl | rfl | h
    · exact absurd htn (hne .columns)
    · exact absurd htn (hne .tables)
    · exact h
  have hkey : ∀ k : Cat, key (k.table s1.pool.longRefs).streamName ≠ key t.streamName := fun k e =>
    hne k ((Cat.table_name _ k).symm.trans
      ((congrArg Table.name (eq_of_same_stream s1.tables hC.inv.distinct (hcat k) htm e)).trans htn))
  rw [MsiProofs.DeleteValidation.deleteValidation_some s1 name (by rw [show s1.findTable Gen.nameValidation.toList = _ from hfind .validation]; rfl)] at hr2
  have keep : ∀ x tn c x', deleteRows x tn c = (x', .ok ()) → MsiProofs.Synced.Good s1 x ∧ NoOrphans x →
      MsiProofs.Synced.Good s1 x' ∧ NoOrphans x' := fun x tn c x' e ⟨g, n⟩ => by
    obtain rfl : (deleteRows x tn c).1 = x' := congrArg Prod.fst e
    exact ⟨g.trans (MsiProofs.Synced.good_deleteRows x (g.sep hC.sep) tn c), noOrphans_deleteRows x n tn c⟩
  obtain ⟨g4, n4⟩ := keep _ _ _ _ hr4 (keep _ _ _ _ hr3 (keep _ _ _ _ hr2 ⟨.refl s1, hN⟩))
  obtain ⟨hI2, hS2, ht2, hL2, hrX2, hrY2, hc2⟩ :=
    stage_delete slack s1 hC.inv hC.sorted _ _ s2 hr2 _ (hfind .validation)
  obtain ⟨hI3, hS3, ht3, hL3, hrX3, hrY3, hc3⟩ :=
    stage_delete slack s2 hI2 hS2 _ _ s3 hr3 _ ((findTable_congr ht2 _).trans (hfind .columns))
  have hT3 : s3.tables = s1.tables := ht3.trans ht2
  obtain ⟨hI4, hS4, ht4, hL4, hrX4, hrY4, hc4⟩ :=
    stage_delete slack s3 hI3 hS3 _ _ s4 hr4 _ ((findTable_congr hT3 _).trans (hfind .tables))
  have hT4 : s4.tables = s1.tables := ht4.trans hT3
  have hLL : s4.pool.longRefs = s1.pool.longRefs := hL4.trans (hL3.trans hL2)
  -- the dropped table reads as empty and has no stream, all the way
  have hempty4 : dataOf s4.cont t.streamName = none := by
    rw [hc4 _ (hkey .tables), hc3 _ (hkey .columns), hc2 _ (hkey .validation)]
    exact hempty
  have hl4 : s4.loadRows t = .ok [] := loadRows_of_find_none (find_none_of_dataOf hempty4)
  have hnd : (s4.tables.map fun (x : Table) => x.name).Nodup := hT4 ▸ hC.names_nodup
  have honly : ∀ x ∈ s4.tables, x.name = name → x = t := fun x hx hxn =>
    nodup_map_inj _ _ hnd hx (hT4 ▸ htm) (hxn.trans htn.symm)
  have hI5 : Inv slack (withoutTable s4 name) :=
    inv_remove_table slack s4 hI4 name (fun x hx hxn => (honly x hx hxn) ▸ hl4)
  -- each catalog table reads what it read, less the rows its own delete selected
  have r4 : ∀ k : Cat, Reads s4 (k.table s1.pool.longRefs)
      (fun v => (∃ t ∈ tabs, v ∈ k.rowsOf t) ∧ condV (k.table s1.pool.longRefs) (eqStr (keyCol k) name) v = .ok false) := by
    have r0 := rows_iff.mp hC.rows
    intro k
    cases k
    · exact hrX4 _ (hrY3 _ (ht2 ▸ hcat .tables) (Cat.name_ne (by decide : Cat.tables ≠ Cat.columns)) _
        (hrY2 _ (hcat .tables) (Cat.name_ne (by decide : Cat.tables ≠ Cat.validation)) _ (r0 .tables)))
    · exact hrY4 _ (hT3 ▸ hcat .columns) (Cat.name_ne (by decide : Cat.columns ≠ Cat.tables)) _
        (hrX3 _ (hrY2 _ (hcat .columns) (Cat.name_ne (by decide : Cat.columns ≠ Cat.validation)) _ (r0 .columns)))
    · exact hrY4 _ (hT3 ▸ hcat .validation) (Cat.name_ne (by decide : Cat.validation ≠ Cat.tables)) _
        (hrY3 _ (ht2 ▸ hcat .validation) (Cat.name_ne (by decide : Cat.validation ≠ Cat.columns)) _ (hrX2 _ (r0 .validation)))
  have hsub : ∀ x ∈ tabs.filter (·.name != name), x ∈ tabs := fun x hx => (List.mem_filter.mp hx).1
  refine ⟨⟨⟨hI5, sorted_remove_table s4 hS4 name, ?_, fun x hx => g4.sep hC.sep x (List.mem_filter.mp hx).1, ?_, ?_,
    filter_sorted hC.tsorted _, List.Nodup.sublist (List.Sublist.map _ List.filter_sublist) hC.names,
    fun x hx => hLL ▸ hC.ok x (hsub x hx), fun x hx => hC.small x (hsub x hx), fun x hx => hC.namesOk x (hsub x hx),
    fun x hx => hC.valid x (hsub x hx), fun x hx => hC.notCat x (hsub x hx)⟩, ?_⟩, ?_⟩
  · exact MsiProofs.Synced.synced_of_effect s1 _ hC.metaSync (g4.effect.trans ⟨.refl _, .refl _, rfl, rfl⟩)
  · refine rows_iff.mpr fun k => ?_
    obtain ⟨rows, hl, hm⟩ := r4 k
    exact ⟨rows, (show (withoutTable s4 name).pool.longRefs = s1.pool.longRefs from hLL) ▸ hl, fun v => (hm v).trans
      (filter_rows tabs name k.rowsOf _ _ (fun t' ht' v hv' => cond_eq k _ name (hC.namesOk t' ht').1 hv') v)⟩
  · show s4.tables.filter (·.name != name) = _
    rw [hT4, hC.tables]
    show _ = insertTable (insertTable _ (Catalog.tablesTable s4.pool.longRefs)) (Catalog.columnsTable s4.pool.longRefs)
    rw [hLL]
    have hT : ∀ x ∈ tabs, x.name ≠ (Catalog.tablesTable s1.pool.longRefs).name := fun x hx => (hC.notCat x hx).1
    rw [filter_insertTable _ (Catalog.columnsTable s1.pool.longRefs) name (insertTable_sorted tabs _ hC.tsorted hT).1
        ((forall_mem_insertTable hT).mpr ⟨Cat.name_ne (by decide : Cat.tables ≠ Cat.columns), fun x hx => (hC.notCat x hx).2⟩)
        (hne .columns),
      filter_insertTable tabs (Catalog.tablesTable s1.pool.longRefs) name hC.tsorted hT (hne .tables)]
  · show Catalog.validationTable s4.pool.longRefs ∈ _
    rw [hLL]
    have : (Catalog.validationTable s1.pool.longRefs).name ≠ name := hne .validation
    exact List.mem_filter.mpr ⟨hv, by simpa [bne] using this⟩
  · -- no orphans: the stream of the dropped table is gone
    refine ⟨fun x hx => n4.valid x (List.mem_filter.mp hx).1, ?_⟩
    intro n hvn hmn hd
    obtain ⟨x, hx, hxn⟩ := n4.owned n hvn hmn hd
    refine ⟨x, List.mem_filter.mpr ⟨hx, ?_⟩, hxn⟩
    have : x.name ≠ name := by
      intro e
      obtain rfl := honly x hx e
      exact hd (by rw [← hxn]; exact hempty4)
    simpa [bne] using this


theorem core_released (slack : Nat → Nat) (s : Pkg) (tabs : List Table) (hC : Core slack s tabs)
    (hv : Catalog.validationTable s.pool.longRefs ∈ tabs) (hN : NoOrphans s)
    (t : Table) (htm : t ∈ s.tables) (hcat : isCatalogName t.name = false)
    (rows : List (List Cell)) (hl : s.loadRows t = .ok rows) :
    Core slack (released s t rows) tabs ∧ Catalog.validationTable (released s t rows).pool.longRefs ∈ tabs ∧
    NoOrphans (released s t rows) := by
  obtain ⟨hI1, hS1, hk, -⟩ := release_stage slack s hC.inv hC.sorted t htm rows hl
  have hne : ∀ k : Cat, (k.table s.pool.longRefs).name ≠ t.name := fun k e => by
    have := k.isCatalogName
    rw [← Cat.table_name s.pool.longRefs k, e, hcat] at this
    cases this
  have e : (released s t rows).pool.longRefs = s.pool.longRefs := hk.long
  refine ⟨⟨hI1, hS1, MsiProofs.Synced.synced_of_effect s _ hC.metaSync
      (MsiProofs.Synced.release_effect s t (hC.sep t htm) rows), hC.sep,
    rows_transfer hC.rows e fun k P => reads_kept hk (hC.catalog k fun _ => hv) (hne k),
    e ▸ hC.tables, hC.tsorted, hC.names, e ▸ hC.ok, hC.small, hC.namesOk, hC.valid, hC.notCat⟩, e ▸ hv, ?_⟩
  · refine ⟨hN.valid, ?_⟩
    intro n hvn hmn hd
    apply hN.owned n hvn hmn
    by_cases hk' : key t.streamName = key (StreamName.encode n true)
    · exfalso
      apply hd
      show dataOf (Cont.remove s.cont t.streamName) _ = none
      have hname : n = t.name := (MsiProofs.Synced.table_stream_injective t.name n (hN.valid t htm) hvn hk').symm
      subst hname
      exact MsiProofs.StreamsMap.dataOf_remove_same s.cont _
    · have : dataOf (released s t rows).cont (StreamName.encode n true) = dataOf s.cont (StreamName.encode n true) :=
        MsiProofs.Synced.dataOf_remove_other s.cont _ _ hk'
      rw [← this]; exact hd

/-- **`drop_table`, accepted, keeps every invariant** and removes the definition from the catalog
invariant: the three catalog tables hold exactly the rows of the remaining definitions -/
theorem dropTable_full (slack : Nat → Nat) (s : Pkg) (tabs : List Table) (hF : Full slack s tabs) (hN : NoOrphans s)
    (name : List Char) (s5 : Pkg) (h : dropTable s name = (s5, .ok ())) :
    Full slack s5 (tabs.filter (·.name != name)) ∧ NoOrphans s5 := by
  obtain ⟨hC, hv⟩ := hF
  obtain ⟨hres, -, t, s1, s2, s3, s4, hf, h1, h2, h3, h4, rfl⟩ := MsiProofs.Exec.dropTable_ok h
  have htm := MsiProofs.Synced.findTable_mem hf
  rcases MsiProofs.Exec.dropStream_ok h1 with ⟨hex, rfl⟩ | ⟨rows, hl, rfl⟩
  · have hnone : Cont.find s1.cont t.streamName = none := by simpa [Cont.exists_] using hex
    exact dropTail_spec slack s1 tabs hC hv hN name t hf hres (by unfold dataOf; rw [hnone]; rfl) h2 h3 h4
  · have hcat : isCatalogName t.name = false := by
      rw [findTable_name hf]
      simp only [Catalog.isReserved, Bool.or_eq_false_iff] at hres
      simp only [isCatalogName, Bool.or_eq_false_iff]
      exact ⟨⟨hres.1.2, hres.1.1⟩, hres.2⟩
    obtain ⟨hC1, hv1, hN1⟩ := core_released slack s tabs hC hv hN t htm hcat rows hl
    exact dropTail_spec slack (released s t rows) tabs hC1 hv1 hN1 name t hf hres
      (MsiProofs.StreamsMap.dataOf_remove_same s.cont _) h2 h3 h4

end MsiProofs.DropTable
