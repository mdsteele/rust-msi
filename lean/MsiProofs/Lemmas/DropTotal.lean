import MsiProofs.Lemmas.Lifecycle
import MsiProofs.Lemmas.SelectTree
import MsiProofs.Lemmas.Exec
import MsiProofs.Lemmas.RelationalApi
/-
`Delete::exec` and `drop_table` always succeed once their arguments are accepted (properties C03,
C04, C09): in every state with the package invariant the reply of a delete is decided by the names
alone — unknown table, or a condition naming an unknown column — and an accepted `drop_table`
cannot fail midway: releasing the rows and the three catalog deletes all succeed.
-/
namespace MsiProofs.DropTotal
open MsiModel MsiModel.Bytes MsiModel.Pkg MsiProofs.GlobalInv MsiProofs.SortedInv MsiProofs.Frame
open MsiProofs.SaveOpen MsiProofs.CreateTable MsiProofs.FullHistory MsiProofs.Lifecycle MsiProofs.RowsOk
open MsiProofs.C09 MsiProofs.C03 MsiProofs.DropTable MsiProofs.CatalogSync

theorem deleteGo_total (t : Table) (cond : Option Ast) (hm : condMissing t cond = false) :
    ∀ (rows : List (List Cell)) (p : Pool) (acc : List (List Cell)), Width t.columns.length rows →
    ∃ x, deleteGo t cond p rows acc = .ok x
  | [], _, _, _ => ⟨_, rfl⟩
  | r :: rs, p, acc, hw => by
    obtain ⟨b, hb⟩ := MsiProofs.SelectTree.condVal_total t p cond hm r (hw r List.mem_cons_self)
    have he : evalCond t p cond r = .ok b := by
      unfold condVal at hb
      cases h : evalCond t p cond r with
      | ok v => rw [h] at hb; cases hb; rfl
      | err k => rw [h] at hb; cases hb
      | panic w => rw [h] at hb; cases hb
    have hrs : Width t.columns.length rs := fun x hx => hw x (List.mem_cons_of_mem _ hx)
    unfold deleteGo
    rw [he]
    cases b
    · exact deleteGo_total t cond hm rs _ _ hrs
    · exact deleteGo_total t cond hm rs _ _ hrs

/-- **the reply of `Delete::exec`**: with the package invariant, a delete on an existing table is
refused exactly when its condition names an unknown column; otherwise it succeeds -/
theorem delete_reply (slack : Nat → Nat) (s : Pkg) (hI : Inv slack s) (tname : List Char) (cond : Option Ast)
    (t : Table) (ht : s.findTable tname = some t) :
    (deleteExec s tname cond).2 = if condMissing t cond then .err .invalidInput else .ok () := by
  have htm := MsiProofs.Synced.findTable_mem ht
  obtain ⟨existing, hl⟩ := hI.loads t htm
  obtain ⟨hlr, hrs⟩ := hI.widths t htm
  unfold deleteExec
  simp only [ht]
  by_cases h1 : condMissing t cond = true
  · simp only [h1, if_true]
  have hm : condMissing t cond = false := by simpa using h1
  simp only [hm, Bool.false_eq_true, if_false, hl]
  have hw := loadRows_width s t existing hl
  obtain ⟨⟨pool', kept⟩, hd⟩ := deleteGo_total t cond hm existing s.pool [] hw
  simp only [hd]
  have hexok := MsiProofs.RefineLoad.loadRows_rowOk s t existing hl
  obtain ⟨l, hsub, rfl⟩ := MsiProofs.LoopSpecs.deleteGo_sublist hd
  apply storeRows_ok_of_rowOk
  · exact fun r hr => hexok r (hsub.subset hr)
  · exact hrs
  · have := MsiProofs.RefineLoad.loadRows_length s t existing hl
    have := hsub.length_le
    omega

theorem cond_table_ok (long : Bool) (name : List Char) :
    condMissing (Catalog.validationTable long) (eqStr "Table" name) = false ∧
    condMissing (Catalog.columnsTable long) (eqStr "Table" name) = false ∧
    condMissing (Catalog.tablesTable long) (eqStr "Name" name) = false := by
  refine ⟨?_, ?_, ?_⟩ <;> rfl

theorem deleteRows_ok (slack : Nat → Nat) (s : Pkg) (hI : Inv slack s) (hS : SortedAll s) (tn : List Char)
    (cond : Option Ast) (t : Table) (ht : s.findTable tn = some t) (hm : condMissing t cond = false) :
    (deleteRows s tn cond).2 = .ok () ∧ Inv slack (deleteRows s tn cond).1 ∧ SortedAll (deleteRows s tn cond).1 ∧
    (deleteRows s tn cond).1.tables = s.tables ∧ (deleteRows s tn cond).1.pool.longRefs = s.pool.longRefs := by
  have hr : (deleteExec { s with finisher := true } tn cond).2 = .ok () := by
    rw [delete_reply slack _ (inv_finisher slack s hI) tn cond t ht, hm]; rfl
  obtain ⟨h1, h2, -, h4, h5, -⟩ := MsiProofs.RelationalApi.op_frame slack s hI hS (.delete tn cond) _ rfl
  exact ⟨hr, h1, h2, h4, h5⟩

theorem catalog_find {slack : Nat → Nat} {s : Pkg} {tabs : List Table} (hF : Full slack s tabs) :
    s.findTable Gen.nameColumns.toList = some (Catalog.columnsTable s.pool.longRefs) ∧
    s.findTable Gen.nameTables.toList = some (Catalog.tablesTable s.pool.longRefs) ∧
    s.findTable Gen.nameValidation.toList = some (Catalog.validationTable s.pool.longRefs) :=
  ⟨hF.core.find _ ((hF.core.mem _).mpr (Or.inl rfl)), hF.core.find _ ((hF.core.mem _).mpr (Or.inr (Or.inl rfl))),
    hF.core.find _ ((hF.core.mem _).mpr (Or.inr (Or.inr hF.hasVal)))⟩

/-- **`drop_table` cannot fail midway**: with the full invariant, a call whose name passes the
checks (not reserved, valid, an existing table) succeeds -/
theorem dropTable_total (slack : Nat → Nat) (s : Pkg) (tabs : List Table) (hF : Full slack s tabs) (name : List Char)
    (hres : Catalog.isReserved name = false) (hvalid : Table.isValidName name = true) (t : Table)
    (hf : s.findTable name = some t) : (dropTable s name).2 = .ok () := by
  have hC := hF.core
  have htm := MsiProofs.Synced.findTable_mem hf
  obtain ⟨hXc, hXt, hXv⟩ := catalog_find hF
  obtain ⟨c1, c2, c3⟩ := cond_table_ok s.pool.longRefs name
  obtain ⟨r1, hI1, hS1, ht1, hl1, -⟩ := MsiProofs.RelationalApi.dropStream_stage slack s hC.inv hC.sorted t htm
  -- so the catalog tables are still found, and each catalog delete succeeds
  rw [Exec.dropTable_eq hres hvalid hf, Exec.andThen_of_ok r1,
    MsiProofs.DeleteValidation.deleteValidation_some _ name (by rw [findTable_congr ht1, hXv]; rfl)]
  obtain ⟨r2, hI2, hS2, ht2, hl2⟩ := deleteRows_ok slack _ hI1 hS1 Gen.nameValidation.toList (eqStr "Table" name) _
    (by rw [findTable_congr ht1]; exact hXv) c1
  rw [Exec.andThen_of_ok r2]
  obtain ⟨r3, hI3, hS3, ht3, hl3⟩ := deleteRows_ok slack _ hI2 hS2 Gen.nameColumns.toList (eqStr "Table" name) _
    (by rw [findTable_congr (ht2.trans ht1)]; exact hXc) c2
  rw [Exec.andThen_of_ok r3]
  obtain ⟨r4, -⟩ := deleteRows_ok slack _ hI3 hS3 Gen.nameTables.toList (eqStr "Name" name) _
    (by rw [findTable_congr (ht3.trans (ht2.trans ht1))]; exact hXt) c3
  rw [Exec.andThen_of_ok r4]

end MsiProofs.DropTotal
