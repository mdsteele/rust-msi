import MsiProofs.Lemmas.CatalogSync
/-
Property C01 on the model, end to end for histories of data manipulation: from any state that
satisfies the package invariants, run any sequence of inserts, updates and deletes on user tables
(accepted or refused), save; reopening the saved container yields a package with the same
container, summary information, string pool and table definitions — in which every table reads
the same rows with the same values.
-/
namespace MsiProofs.EndToEnd
open MsiModel MsiModel.Bytes MsiModel.Pkg MsiProofs.GlobalInv MsiProofs.SortedInv MsiProofs.CatalogSync
open MsiProofs.SaveOpen

/-- all the invariants together -/
structure AllInv (slack : Nat → Nat) (s : Pkg) (tabs : List Table) : Prop where
  inv : Inv slack s
  sorted : SortedAll s
  metaSync : MsiProofs.Synced.Synced s
  sep : MsiProofs.Synced.TablesSeparate s
  cat : CatalogSynced s tabs
  hasVal : Catalog.validationTable s.pool.longRefs ∈ tabs

/-- a statement on a user table -/
def UserOp (op : MsiProofs.GlobalInvUpd.Op) : Prop := isCatalogName (MsiProofs.Frame.target op) = false

theorem effect_of_op (s : Pkg) (hsep : MsiProofs.Synced.TablesSeparate s) (op : MsiProofs.GlobalInvUpd.Op) :
    MsiProofs.Synced.Effect s (op.run s) ∧ (op.run s).tables = s.tables := by
  cases op with
  | insert t rows => exact MsiProofs.Synced.insertExec_effect s hsep t rows
  | delete t cond => exact MsiProofs.Synced.deleteExec_effect s hsep t cond
  | update t ups cond => exact MsiProofs.Synced.updateExec_effect s hsep t ups cond

/-- **one statement keeps every invariant** -/
theorem op_allInv (slack : Nat → Nat) (s : Pkg) (tabs : List Table) (h : AllInv slack s tabs)
    (op : MsiProofs.GlobalInvUpd.Op) (hu : UserOp op) : AllInv slack (op.run s) tabs := by
  obtain ⟨he, ht⟩ := effect_of_op s h.sep op
  have hk := MsiProofs.Frame.op_kept slack s h.inv op
  obtain ⟨hi', hs'⟩ := MsiProofs.SortUpd.history_sorted slack [op] s h.inv h.sorted
  refine ⟨hi', hs', MsiProofs.Synced.synced_of_effect _ _ h.metaSync he, ?_,
    op_catalogSynced slack s tabs h.inv h.cat h.hasVal op hu, ?_⟩
  · intro t htm
    exact h.sep t (by rw [← ht]; exact htm)
  · rw [hk.long]; exact h.hasVal

theorem history_allInv (slack : Nat → Nat) (tabs : List Table) (ops : List MsiProofs.GlobalInvUpd.Op)
    (hu : ∀ op ∈ ops, UserOp op) : ∀ (s : Pkg), AllInv slack s tabs →
    AllInv slack (ops.foldl MsiProofs.GlobalInvUpd.Op.run s) tabs := by
  induction ops with
  | nil => intro s h; exact h
  | cons op ops ih =>
    intro s h
    exact ih (fun o ho => hu o (by simp [ho])) _ (op_allInv slack s tabs h op (hu op (by simp)))

theorem reopen_of_allInv {slack : Nat → Nat} {tabs : List Table} {s : Pkg} (h : AllInv slack s tabs)
    (E : List Char → Bytes) (hsav : Savable s E) (s1 : Pkg) (hf : finish s = (s1, .ok ())) :
    ∃ s2, open_ (some s1.ptype) s1.cont = .ok s2 ∧
      s2.cont = s1.cont ∧ s2.summary = s1.summary ∧ s2.pool = s1.pool ∧ s2.tables = s1.tables ∧
      (∀ t, s2.loadRows t = s1.loadRows t) := by
  obtain ⟨hsaved, -, -⟩ := MsiProofs.Synced.finish_step _ s1 E h.metaSync h.sep hsav hf
  obtain ⟨s2, ho, hc, hs, hp, ht⟩ := reopen_same_tables s1 tabs hsaved (finish_catalogSynced _ s1 tabs h.cat hf)
  exact ⟨s2, ho, hc, hs, hp, ht, fun t => rows_same_after_reopen s1 s2 hc t⟩

/-- **save and reopen after any history**: the reopened package has the same container, summary
information, string pool and table definitions; hence every table reads the same rows with the
same values as before closing -/
theorem reopen_after_history (slack : Nat → Nat) (tabs : List Table) (s0 : Pkg) (h0 : AllInv slack s0 tabs)
    (ops : List MsiProofs.GlobalInvUpd.Op) (hu : ∀ op ∈ ops, UserOp op)
    (E : List Char → Bytes) (hsav : Savable (ops.foldl MsiProofs.GlobalInvUpd.Op.run s0) E)
    (s1 : Pkg) (hf : finish (ops.foldl MsiProofs.GlobalInvUpd.Op.run s0) = (s1, .ok ())) :
    ∃ s2, open_ (some s1.ptype) s1.cont = .ok s2 ∧
      s2.cont = s1.cont ∧ s2.summary = s1.summary ∧ s2.pool = s1.pool ∧ s2.tables = s1.tables ∧
      (∀ t, s2.loadRows t = s1.loadRows t) :=
  reopen_of_allInv (history_allInv slack tabs ops hu s0 h0) E hsav s1 hf

end MsiProofs.EndToEnd
