import MsiModel.PkgApi
import MsiProofs.Lemmas.Basic
import MsiProofs.Lemmas.Loops
/-
The calls of the package API in the form the proofs use.

`Insert::exec`, `Delete::exec` and `Update::exec` have one shape: find the table, run checks and
pool work that either fail leaving the state as it was or yield a new pool and the rows to
write, then `storeRows`.  The model functions are written as nested matches on pairs; here each
is shown equal to `onTable s tn plan` with `plan` in the result monad, so that a proof about a
statement inverts a `>>=` chain (`Res.bind_eq_ok`).

`create_table` and `drop_table` are chains of such statements (`andThen`): what a chain keeps,
and what a chain that succeeded went through, is said once.  Likewise the up-front checks of
`create_table` (a conjunction), the finisher (at most three streams written, two flags lowered),
`open` and the stream calls.
-/
namespace MsiProofs.Exec
open MsiModel MsiModel.Pkg

/-- the common tail: write what the plan produced, or return the state untouched -/
def commit (s : Pkg) (t : Table) : Res (Pool × List (List Cell)) → Pkg × Res Unit
  | .ok (pool', out) => storeRows { s with pool := pool' } t out
  | .err k => (s, .err k)
  | .panic w => (s, .panic w)

/-- a statement on table `tn`: refused when there is no such table -/
def onTable (s : Pkg) (tn : List Char) (plan : Table → Res (Pool × List (List Cell))) : Pkg × Res Unit :=
  match s.findTable tn with
  | none => (s, .err .notFound)
  | some t => commit s t (plan t)

def insertPlan (s : Pkg) (rows : List (List Value)) (t : Table) : Res (Pool × List (List Cell)) := do
  if (rows.any fun r => r.length ≠ t.columns.length) then .err .invalidInput else
  if (rows.any fun r => (t.columns.zip r).any fun (c, v) => !c.isValidValue v) then .err .invalidInput else
  let existing ← s.loadRows t
  let m ← Res.ofOption (loadMap s.pool t.keyIndices existing []) .invalidData
  match checkNew t.keyIndices m (rows.map fun r => r.map storable) [] with
  | some k => .err k
  | none =>
    if m.length + (rows.map fun r => r.map storable).length > Gen.maxTableRows then .err .invalidInput else do
    let (pool', m') ← addRows t.keyIndices s.pool (rows.map fun r => r.map storable) m
    pure (pool', m'.map (·.2))

def deletePlan (s : Pkg) (cond : Option Ast) (t : Table) : Res (Pool × List (List Cell)) := do
  if condMissing t cond then .err .invalidInput else
  let rows ← s.loadRows t
  deleteGo t cond s.pool rows []

/-- the assignments as (column index, stored value) -/
def upsOf (t : Table) (updates : List (List Char × Value)) : List (Nat × Value) :=
  updates.filterMap fun x => (t.indexOfColumn x.1).map fun i => (i, storable x.2)

/-- the keys the planned rows will have -/
def planKeys (t : Table) (planned : List (List Value × Bool)) : List (List Value) :=
  planned.map fun x => keyOf t.keyIndices x.1

/-- the order in which `Update::exec` writes the rows: re-sorted when a key column is assigned -/
def writeOrder (t : Table) (ups : List (Nat × Value)) (planned : List (List Value × Bool)) (n : Nat) : List Nat :=
  if ups.any fun x => t.keyIndices.contains x.1 then sortByKey (planKeys t planned) (List.range n) else List.range n

/-- two rows that end up adjacent in the write order have the same key -/
def dupKeys (t : Table) (ups : List (Nat × Value)) (planned : List (List Value × Bool)) (n : Nat) : Bool :=
  (ups.any fun x => t.keyIndices.contains x.1) &&
    ((writeOrder t ups planned n).zip ((writeOrder t ups planned n).drop 1)).any fun x =>
      !keyLt ((planKeys t planned).getD x.1 []) ((planKeys t planned).getD x.2 []) &&
      !keyLt ((planKeys t planned).getD x.2 []) ((planKeys t planned).getD x.1 [])

def updatePlan (s : Pkg) (updates : List (List Char × Value)) (cond : Option Ast) (t : Table) :
    Res (Pool × List (List Cell)) := do
  match validateUpdates t updates with
  | some k => .err k
  | none =>
    if condMissing t cond then .err .invalidInput else do
    let rows ← s.loadRows t
    let planned ← updPlan t s.pool cond (upsOf t updates) rows []
    if dupKeys t (upsOf t updates) planned rows.length then .err .alreadyExists else do
    let (pool', rows') ← updApply (upsOf t updates) s.pool rows planned []
    pure (pool', (writeOrder t (upsOf t updates) planned rows.length).map fun i => rows'.getD i [])

theorem insertExec_eq (s : Pkg) (tn : List Char) (rows : List (List Value)) :
    insertExec s tn rows = onTable s tn (insertPlan s rows) := by
  unfold insertExec onTable insertPlan
  cases s.findTable tn with
  | none => rfl
  | some t =>
    simp only
    split; · rfl
    split; · rfl
    cases s.loadRows t with
    | err k => rfl
    | panic w => rfl
    | ok existing =>
      simp only [Res.bind_ok]
      cases loadMap s.pool t.keyIndices existing [] with
      | none => rfl
      | some m =>
        simp only [Res.ofOption, Res.bind_ok]
        cases checkNew t.keyIndices m (rows.map fun r => r.map storable) [] with
        | some k => rfl
        | none =>
          simp only
          split; · rfl
          cases addRows t.keyIndices s.pool (rows.map fun r => r.map storable) m with
          | err k => rfl
          | panic w => rfl
          | ok x => rfl

theorem deleteExec_eq (s : Pkg) (tn : List Char) (cond : Option Ast) :
    deleteExec s tn cond = onTable s tn (deletePlan s cond) := by
  unfold deleteExec onTable deletePlan
  cases s.findTable tn with
  | none => rfl
  | some t =>
    simp only
    split; · rfl
    cases s.loadRows t with
    | err k => rfl
    | panic w => rfl
    | ok rows =>
      simp only [Res.bind_ok]
      cases deleteGo t cond s.pool rows [] with
      | err k => rfl
      | panic w => rfl
      | ok x => rfl

theorem updateExec_eq (s : Pkg) (tn : List Char) (updates : List (List Char × Value)) (cond : Option Ast) :
    updateExec s tn updates cond = onTable s tn (updatePlan s updates cond) := by
  unfold updateExec onTable updatePlan dupKeys writeOrder planKeys upsOf
  cases s.findTable tn with
  | none => rfl
  | some t =>
    simp only
    cases validateUpdates t updates with
    | some k => rfl
    | none =>
      simp only
      split; · rfl
      cases s.loadRows t with
      | err k => rfl
      | panic w => rfl
      | ok rows =>
        simp only [Res.bind_ok]
        generalize (updates.filterMap fun x => (t.indexOfColumn x.1).map fun i => (i, storable x.2)) = ups
        cases updPlan t s.pool cond ups rows [] with
        | err k => rfl
        | panic w => rfl
        | ok planned =>
          simp only [Res.bind_ok]
          cases ups.any fun x => t.keyIndices.contains x.1
          · simp only [Bool.false_and, Bool.false_eq_true, if_false]
            cases updApply ups s.pool rows planned [] with
            | err k => rfl
            | panic w => rfl
            | ok x => rfl
          · simp only [Bool.true_and, if_true]
            split; · rfl
            cases updApply ups s.pool rows planned [] with
            | err k => rfl
            | panic w => rfl
            | ok x => rfl

theorem commit_ok {s : Pkg} {t : Table} {r : Res (Pool × List (List Cell))} {s' : Pkg} :
    commit s t r = (s', .ok ()) ↔ ∃ pool' out bs, r = .ok (pool', out) ∧ t.writeRows out = .ok bs ∧
      s' = { s with pool := pool', cont := Cont.put s.cont t.streamName bs } := by
  constructor
  · intro h
    rcases r with ⟨pool', out⟩ | k | w
    · simp only [commit, storeRows] at h
      cases hw : t.writeRows out with
      | ok bs => rw [hw] at h; exact ⟨pool', out, bs, rfl, hw, (Prod.mk.inj h).1.symm⟩
      | err k => rw [hw] at h; cases (Prod.mk.inj h).2
      | panic w => rw [hw] at h; cases (Prod.mk.inj h).2
    · cases (Prod.mk.inj h).2
    · cases (Prod.mk.inj h).2
  · rintro ⟨pool', out, bs, rfl, hw, rfl⟩
    simp only [commit, storeRows, hw]

theorem onTable_ok {s : Pkg} {tn : List Char} {plan : Table → Res (Pool × List (List Cell))} {s' : Pkg} :
    onTable s tn plan = (s', .ok ()) ↔ ∃ t pool' out bs, s.findTable tn = some t ∧ plan t = .ok (pool', out) ∧
      t.writeRows out = .ok bs ∧ s' = { s with pool := pool', cont := Cont.put s.cont t.streamName bs } := by
  unfold onTable
  cases s.findTable tn with
  | none => simp
  | some t => simp [commit_ok]

theorem insertPlan_ok {s : Pkg} {rows : List (List Value)} {t : Table} {pool' : Pool} {out : List (List Cell)} :
    insertPlan s rows t = .ok (pool', out) ↔ ∃ existing m m',
      (∀ r ∈ rows, r.length = t.columns.length) ∧
      (∀ r ∈ rows, ∀ x ∈ t.columns.zip r, x.1.isValidValue x.2 = true) ∧
      s.loadRows t = .ok existing ∧ loadMap s.pool t.keyIndices existing [] = some m ∧
      checkNew t.keyIndices m (rows.map fun r => r.map storable) [] = none ∧
      m.length + rows.length ≤ Gen.maxTableRows ∧
      addRows t.keyIndices s.pool (rows.map fun r => r.map storable) m = .ok (pool', m') ∧
      out = m'.map (·.2) := by
  unfold insertPlan
  by_cases h1 : (rows.any fun r => r.length ≠ t.columns.length) = true
  · rw [if_pos h1]
    simp only [List.any_eq_true, decide_eq_true_eq] at h1
    obtain ⟨r, hr, hne⟩ := h1
    exact ⟨(fun h => nomatch h), fun ⟨_, _, _, h, _⟩ => absurd (h r hr) hne⟩
  rw [if_neg h1]
  by_cases h2 : (rows.any fun r => (t.columns.zip r).any fun (c, v) => !c.isValidValue v) = true
  · rw [if_pos h2]
    simp only [List.any_eq_true, Bool.not_eq_true'] at h2
    obtain ⟨r, hr, x, hx, hv⟩ := h2
    exact ⟨(fun h => nomatch h), fun ⟨_, _, _, _, h, _⟩ => by rw [h r hr x hx] at hv; cases hv⟩
  rw [if_neg h2]
  have h1' : ∀ r ∈ rows, r.length = t.columns.length := by simpa using h1
  have h2' : ∀ r ∈ rows, ∀ x ∈ t.columns.zip r, x.1.isValidValue x.2 = true := by simpa using h2
  constructor
  · intro h
    obtain ⟨existing, hl, h⟩ := Res.bind_eq_ok.mp h
    obtain ⟨m, hm, h⟩ := Res.bind_eq_ok.mp h
    cases hc : checkNew t.keyIndices m (rows.map fun r => r.map storable) [] with
    | some k => rw [hc] at h; cases h
    | none =>
      simp only [hc] at h
      by_cases hle : m.length + (rows.map fun r => r.map storable).length > Gen.maxTableRows
      · rw [if_pos hle] at h; cases h
      rw [if_neg hle] at h
      obtain ⟨⟨p, m'⟩, ha, he⟩ := Res.bind_eq_ok.mp h
      cases he
      rw [List.length_map] at hle
      exact ⟨existing, m, m', h1', h2', hl, Res.ofOption_eq_ok.mp hm, hc, by omega, ha, rfl⟩
  · rintro ⟨existing, m, m', -, -, hl, hm, hc, hle, ha, rfl⟩
    have : ¬ m.length + (rows.map fun r => r.map storable).length > Gen.maxTableRows := by
      rw [List.length_map]; omega
    simp only [hl, hm, Res.ofOption, Res.bind_ok, hc, if_neg this, ha, Res.pure_eq]

theorem deletePlan_ok {s : Pkg} {cond : Option Ast} {t : Table} {pool' : Pool} {out : List (List Cell)} :
    deletePlan s cond t = .ok (pool', out) ↔ ∃ rows, condMissing t cond = false ∧ s.loadRows t = .ok rows ∧
      deleteGo t cond s.pool rows [] = .ok (pool', out) := by
  unfold deletePlan
  cases condMissing t cond with
  | true => exact ⟨(fun h => nomatch h), fun ⟨_, h, _⟩ => (nomatch h)⟩
  | false =>
    rw [if_neg (by simp), Res.bind_eq_ok]
    exact ⟨fun ⟨rows, h1, h2⟩ => ⟨rows, rfl, h1, h2⟩, fun ⟨rows, _, h1, h2⟩ => ⟨rows, h1, h2⟩⟩

theorem updatePlan_ok {s : Pkg} {updates : List (List Char × Value)} {cond : Option Ast} {t : Table}
    {pool' : Pool} {out : List (List Cell)} :
    updatePlan s updates cond t = .ok (pool', out) ↔ ∃ rows planned rows',
      validateUpdates t updates = none ∧ condMissing t cond = false ∧ s.loadRows t = .ok rows ∧
      updPlan t s.pool cond (upsOf t updates) rows [] = .ok planned ∧
      dupKeys t (upsOf t updates) planned rows.length = false ∧
      updApply (upsOf t updates) s.pool rows planned [] = .ok (pool', rows') ∧
      out = (writeOrder t (upsOf t updates) planned rows.length).map fun i => rows'.getD i [] := by
  unfold updatePlan
  cases validateUpdates t updates with
  | some k => exact ⟨(fun h => nomatch h), fun ⟨_, _, _, h, _⟩ => (nomatch h)⟩
  | none =>
    cases condMissing t cond with
    | true => exact ⟨(fun h => nomatch h), fun ⟨_, _, _, _, h, _⟩ => (nomatch h)⟩
    | false =>
      simp only [Bool.false_eq_true, if_false]
      constructor
      · intro h
        obtain ⟨rows, hl, h⟩ := Res.bind_eq_ok.mp h
        obtain ⟨planned, hp, h⟩ := Res.bind_eq_ok.mp h
        cases hd : dupKeys t (upsOf t updates) planned rows.length with
        | true => rw [hd, if_pos rfl] at h; cases h
        | false =>
          rw [hd, if_neg (by simp)] at h
          obtain ⟨⟨p, rows'⟩, ha, he⟩ := Res.bind_eq_ok.mp h
          cases he
          exact ⟨rows, planned, rows', trivial, trivial, hl, hp, hd, ha, rfl⟩
      · rintro ⟨rows, planned, rows', -, -, hl, hp, hd, ha, rfl⟩
        simp only [hl, hp, Res.bind_ok, hd, Bool.false_eq_true, if_false, ha, Res.pure_eq]

/-- `storeRows` rewrites the table's stream (with the encoded rows; with nothing when the encoder
refuses them), or leaves the state as it is when the encoder panics -/
theorem storeRows_fst (s : Pkg) (t : Table) (rows : List (List Cell)) :
    (storeRows s t rows).1 = s ∨ ∃ bs, (storeRows s t rows).1 = { s with cont := Cont.put s.cont t.streamName bs } := by
  unfold storeRows
  cases t.writeRows rows with
  | ok bs => exact Or.inr ⟨bs, rfl⟩
  | err k => exact Or.inr ⟨[], rfl⟩
  | panic w => exact Or.inl rfl

theorem onTable_stored (s : Pkg) (tn : List Char) (plan : Table → Res (Pool × List (List Cell))) :
    (onTable s tn plan).1 = s ∨ ∃ t pool' out, s.findTable tn = some t ∧ plan t = .ok (pool', out) ∧
      (onTable s tn plan).1 = (storeRows { s with pool := pool' } t out).1 := by
  cases hf : s.findTable tn with
  | none => left; unfold onTable; rw [hf]
  | some t =>
    have e : onTable s tn plan = commit s t (plan t) := by unfold onTable; rw [hf]
    rw [e]
    cases hp : plan t with
    | err k => exact Or.inl rfl
    | panic w => exact Or.inl rfl
    | ok x => exact Or.inr ⟨t, x.1, x.2, rfl, hp, rfl⟩

/-! ### the pool a successful plan ends with

is reached from the pool of the state through `incref`s and `decref`s only, so every `PoolRel`
relates the two -/

section plans
open MsiProofs.Loops
variable {A : List Char → Prop} {R : Pool → Pool → Prop} (hR : PoolRel A R) {s : Pkg} {t : Table} {p : Pool}
  {out : List (List Cell)}
include hR

theorem insertPlan_rel {rows : List (List Value)} (hA : ∀ r ∈ rows, StrsIn A (r.map storable))
    (h : insertPlan s rows t = .ok (p, out)) : R s.pool p := by
  -- (anonymous-constructor `have`: clearing the unused parts one by one is ten times slower here)
  have ⟨_, _, _, _, _, _, _, _, _, ha, _⟩ := insertPlan_ok.mp h
  exact addRows_rel hR _ _ (fun r hr => by
    obtain ⟨r0, hr0, rfl⟩ := List.mem_map.mp hr
    exact hA r0 hr0) ha

theorem deletePlan_rel {cond : Option Ast} (h : deletePlan s cond t = .ok (p, out)) : R s.pool p := by
  obtain ⟨_, -, -, hd⟩ := deletePlan_ok.mp h
  exact deleteGo_rel hR _ _ _ hd

theorem updatePlan_rel {ups : List (List Char × Value)} {cond : Option Ast}
    (hA : ∀ u ∈ upsOf t ups, ∀ x, u.2 = .str x → A x)
    (h : updatePlan s ups cond t = .ok (p, out)) : R s.pool p := by
  have ⟨_, _, _, _, _, _, _, _, ha, _⟩ := updatePlan_ok.mp h
  exact updApply_rel hR _ hA _ ha

end plans

theorem createError_eq_none {s : Pkg} {name : List Char} {cols : List Column} :
    createError s name cols = none ↔
      Table.isValidName name = true ∧ isPoolName name = false ∧ cols.isEmpty = false ∧
      cols.length ≤ Gen.maxTableColumns ∧ cols.any (·.isPrimaryKey) = true ∧
      cols.any (fun c => !Category.validate .identifier c.name) = false ∧
      hasDuplicateNames (cols.map (·.name)) = false ∧ s.findTable name = none ∧
      cols.any (fun c => !isStorable c) = false ∧
      rowsValidFor (Catalog.columnsTable false) (catalogRowsColumns name cols) = true ∧
      rowsValidFor (Catalog.tablesTable false) [[.str name]] = true ∧
      rowsValidFor (Catalog.validationTable false) (catalogRowsValidation name cols) = true := by
  simp only [createError, ite_some_eq_none, and_true, Bool.not_eq_true', Bool.not_eq_true,
    Bool.not_eq_false, Nat.not_lt, gt_iff_lt, Option.isSome_eq_false_iff, Option.isNone_iff_eq_none]

theorem createTable_of_error {s : Pkg} {name : List Char} {cols : List Column} {k : ErrKind}
    (h : createError s name cols = some k) : createTable s name cols = (s, .err k) := by
  unfold createTable; rw [h]

/-! ### `create_table` and `drop_table` as chains of calls -/

/-- go on with `g` when the call before succeeded, else stop with its result: the shape
`match r with | (s1, .ok ()) => g s1 | r => r` of the two functions -/
def andThen (r : Pkg × Res Unit) (g : Pkg → Pkg × Res Unit) : Pkg × Res Unit :=
  match r with
  | (s1, .ok ()) => g s1
  | r => r

theorem andThen_ok {r : Pkg × Res Unit} {g : Pkg → Pkg × Res Unit} {s' : Pkg} :
    andThen r g = (s', .ok ()) ↔ ∃ s1, r = (s1, .ok ()) ∧ g s1 = (s', .ok ()) := by
  obtain ⟨s1, res⟩ := r
  rcases res with ⟨⟨⟩⟩ | k | w
  · exact ⟨fun h => ⟨s1, rfl, h⟩, fun ⟨_, h1, h2⟩ => by cases h1; exact h2⟩
  · exact ⟨fun h => (nomatch (Prod.mk.inj h).2), fun ⟨_, h1, _⟩ => (nomatch (Prod.mk.inj h1).2)⟩
  · exact ⟨fun h => (nomatch (Prod.mk.inj h).2), fun ⟨_, h1, _⟩ => (nomatch (Prod.mk.inj h1).2)⟩

theorem andThen_keeps {P : Pkg → Prop} {r : Pkg × Res Unit} {g : Pkg → Pkg × Res Unit}
    (h1 : P r.1) (h2 : r.2 = .ok () → P (g r.1).1) : P (andThen r g).1 := by
  obtain ⟨s1, res⟩ := r
  rcases res with ⟨⟨⟩⟩ | k | w
  · exact h2 rfl
  · exact h1
  · exact h1

theorem andThen_of_ok {r : Pkg × Res Unit} {g : Pkg → Pkg × Res Unit} (h : r.2 = .ok ()) :
    andThen r g = g r.1 := by
  obtain ⟨s1, res⟩ := r
  cases h
  rfl

theorem andThen_passes {r : Pkg × Res Unit} {g : Pkg → Pkg × Res Unit}
    (hr : r.2 = .ok () ∨ ∃ w, r.2 = .panic w)
    (hg : ∀ s1, r = (s1, .ok ()) → (g s1).2 = .ok () ∨ ∃ w, (g s1).2 = .panic w) :
    (andThen r g).2 = .ok () ∨ ∃ w, (andThen r g).2 = .panic w := by
  obtain ⟨s1, res⟩ := r
  rcases hr with h | ⟨w, h⟩
  · cases h; exact hg s1 rfl
  · cases h; exact Or.inr ⟨w, rfl⟩

theorem createTable_eq {s : Pkg} {name : List Char} {cols : List Column} (hce : createError s name cols = none) :
    createTable s name cols =
      match catalogRoom s name cols with
      | .err k => (s, .err k)
      | .panic w => (s, .panic w)
      | .ok () =>
        andThen (insertRows s Gen.nameColumns.toList (catalogRowsColumns name cols)) fun s1 =>
        andThen (insertRows s1 Gen.nameTables.toList [[.str name]]) fun s2 =>
        insertRows { s2 with tables := insertTable s2.tables ⟨name, cols, s2.pool.longRefs⟩ }
          Gen.nameValidation.toList (catalogRowsValidation name cols) := by
  unfold createTable andThen
  rw [hce]
  rfl

/-- the state `drop_table` reaches by releasing the table's rows and removing its stream -/
def dropStream (s : Pkg) (t : Table) : Pkg × Res Unit :=
  if Cont.exists_ s.cont t.streamName then
    match s.loadRows t with
    | .err k => (s, .err k)
    | .panic w => (s, .panic w)
    | .ok rows =>
      ({ s with finisher := true, pool := rows.foldl (fun p r => r.foldl Cell.remove p) s.pool,
                cont := Cont.remove s.cont t.streamName }, .ok ())
  else (s, .ok ())

theorem dropTable_eq {s : Pkg} {name : List Char} {t : Table} (hr : Catalog.isReserved name = false)
    (hv : Table.isValidName name = true) (hf : s.findTable name = some t) :
    dropTable s name =
      andThen (dropStream s t) fun s1 =>
      andThen (deleteValidation s1 name) fun s2 =>
      andThen (deleteRows s2 Gen.nameColumns.toList (eqStr "Table" name)) fun s3 =>
      andThen (deleteRows s3 Gen.nameTables.toList (eqStr "Name" name)) fun s4 =>
      ({ s4 with tables := s4.tables.filter (·.name != name) }, .ok ()) := by
  unfold dropTable andThen dropStream
  simp only [hr, hv, hf, Bool.false_eq_true, if_false, Bool.not_true]
  rfl

theorem dropTable_refused {s : Pkg} {name : List Char}
    (h : Catalog.isReserved name = true ∨ Table.isValidName name = false ∨ s.findTable name = none) :
    (dropTable s name).1 = s := by
  unfold dropTable
  rcases h with h | h | h
  · rw [if_pos h]
  · split; · rfl
    rw [if_pos (by simp [h])]
  · split; · rfl
    split; · rfl
    rw [h]

theorem createTable_keeps_rows {P : Pkg → Prop} {Q : List (List Value) → Prop} {name : List Char} {cols : List Column}
    (hins : ∀ s tn rows, Q rows → P s → P (insertRows s tn rows).1) (s : Pkg)
    (hadd : createError s name cols = none → ∀ s' lr, P s' → P { s' with tables := insertTable s'.tables ⟨name, cols, lr⟩ })
    (h1 : Q (catalogRowsColumns name cols)) (h2 : Q [[.str name]]) (h3 : Q (catalogRowsValidation name cols))
    (h : P s) : P (createTable s name cols).1 := by
  cases hce : createError s name cols with
  | some k => rw [createTable_of_error hce]; exact h
  | none =>
    rw [createTable_eq hce]
    cases catalogRoom s name cols with
    | err k => exact h
    | panic w => exact h
    | ok u =>
      exact andThen_keeps (hins _ _ _ h1 h) fun _ => andThen_keeps (hins _ _ _ h2 (hins _ _ _ h1 h)) fun _ =>
        hins _ _ _ h3 (hadd hce _ _ (hins _ _ _ h2 (hins _ _ _ h1 h)))

theorem createTable_keeps_named {P : Pkg → Prop} {name : List Char} {cols : List Column}
    (hins : ∀ s tn rows, P s → P (insertRows s tn rows).1)
    (hadd : Table.isValidName name = true → isPoolName name = false → ∀ s long, P s →
      P { s with tables := insertTable s.tables ⟨name, cols, long⟩ })
    (s : Pkg) (h : P s) : P (createTable s name cols).1 :=
  createTable_keeps_rows (Q := fun _ => True) (fun s tn rows _ => hins s tn rows) s
    (fun hce => hadd (createError_eq_none.mp hce).1 (createError_eq_none.mp hce).2.1) trivial trivial trivial h

theorem createTable_ok {s s4 : Pkg} {name : List Char} {cols : List Column} (h : createTable s name cols = (s4, .ok ())) :
    createError s name cols = none ∧ ∃ s1 s2,
      insertRows s Gen.nameColumns.toList (catalogRowsColumns name cols) = (s1, .ok ()) ∧
      insertRows s1 Gen.nameTables.toList [[.str name]] = (s2, .ok ()) ∧
      insertRows { s2 with tables := insertTable s2.tables ⟨name, cols, s2.pool.longRefs⟩ } Gen.nameValidation.toList
        (catalogRowsValidation name cols) = (s4, .ok ()) := by
  cases hce : createError s name cols with
  | some k => rw [createTable_of_error hce] at h; cases (Prod.mk.inj h).2
  | none =>
    rw [createTable_eq hce] at h
    cases hroom : catalogRoom s name cols with
    | err k => rw [hroom] at h; cases (Prod.mk.inj h).2
    | panic w => rw [hroom] at h; cases (Prod.mk.inj h).2
    | ok u =>
      rw [hroom] at h
      obtain ⟨s1, hr1, h⟩ := andThen_ok.mp h
      obtain ⟨s2, hr2, h⟩ := andThen_ok.mp h
      exact ⟨rfl, s1, s2, hr1, hr2, h⟩

theorem dropTable_ok {s s5 : Pkg} {name : List Char} (h : dropTable s name = (s5, .ok ())) :
    Catalog.isReserved name = false ∧ Table.isValidName name = true ∧ ∃ t s1 s2 s3 s4,
      s.findTable name = some t ∧ dropStream s t = (s1, .ok ()) ∧ deleteValidation s1 name = (s2, .ok ()) ∧
      deleteRows s2 Gen.nameColumns.toList (eqStr "Table" name) = (s3, .ok ()) ∧
      deleteRows s3 Gen.nameTables.toList (eqStr "Name" name) = (s4, .ok ()) ∧
      s5 = { s4 with tables := s4.tables.filter (·.name != name) } := by
  cases hr : Catalog.isReserved name with
  | true => unfold dropTable at h; rw [if_pos hr] at h; cases (Prod.mk.inj h).2
  | false =>
    cases hv : Table.isValidName name with
    | false => unfold dropTable at h; rw [hr, hv] at h; cases (Prod.mk.inj h).2
    | true =>
      cases hf : s.findTable name with
      | none => unfold dropTable at h; rw [hr, hv, hf] at h; cases (Prod.mk.inj h).2
      | some t =>
        rw [dropTable_eq hr hv hf] at h
        obtain ⟨s1, h1, h⟩ := andThen_ok.mp h
        obtain ⟨s2, h2, h⟩ := andThen_ok.mp h
        obtain ⟨s3, h3, h⟩ := andThen_ok.mp h
        obtain ⟨s4, h4, h⟩ := andThen_ok.mp h
        exact ⟨rfl, rfl, t, s1, s2, s3, s4, rfl, h1, h2, h3, h4, (Prod.mk.inj h).1.symm⟩

theorem dropStream_ok {s s1 : Pkg} {t : Table} (h : dropStream s t = (s1, .ok ())) :
    (Cont.exists_ s.cont t.streamName = false ∧ s1 = s) ∨
    ∃ rows, s.loadRows t = .ok rows ∧
      s1 = { s with finisher := true, pool := rows.foldl (fun p r => r.foldl Cell.remove p) s.pool,
                    cont := Cont.remove s.cont t.streamName } := by
  unfold dropStream at h
  cases hex : Cont.exists_ s.cont t.streamName with
  | false => rw [hex] at h; exact Or.inl ⟨rfl, (Prod.mk.inj h).1.symm⟩
  | true =>
    rw [hex, if_pos rfl] at h
    cases hl : s.loadRows t with
    | err k => rw [hl] at h; cases (Prod.mk.inj h).2
    | panic w => rw [hl] at h; cases (Prod.mk.inj h).2
    | ok rows => rw [hl] at h; exact Or.inr ⟨rows, rfl, (Prod.mk.inj h).1.symm⟩

theorem dropTable_keeps {P : Pkg → Prop} (name : List Char)
    (hrel : ∀ s t, s.findTable name = some t → P s → P (dropStream s t).1)
    (hdel : ∀ s tn c, P s → P (deleteRows s tn c).1)
    (hflt : ∀ s, P s → P { s with tables := s.tables.filter (·.name != name) })
    (s : Pkg) (h : P s) : P (dropTable s name).1 := by
  by_cases href : Catalog.isReserved name = true ∨ Table.isValidName name = false ∨ s.findTable name = none
  · rw [dropTable_refused href]; exact h
  cases hf : s.findTable name with
  | none => exact absurd (Or.inr (Or.inr hf)) href
  | some t =>
    rw [dropTable_eq (by simpa using fun hh => href (Or.inl hh))
      (by simpa using fun hh => href (Or.inr (Or.inl hh))) hf]
    have hval : ∀ s, P s → P (deleteValidation s name).1 := by
      intro s hs; unfold deleteValidation; split
      · exact hdel _ _ _ hs
      · exact hs
    have h1 := hrel s t hf h
    exact andThen_keeps h1 fun _ => andThen_keeps (hval _ h1) fun _ =>
      andThen_keeps (hdel _ _ _ (hval _ h1)) fun _ =>
      andThen_keeps (hdel _ _ _ (hdel _ _ _ (hval _ h1))) fun _ => hflt _ (hdel _ _ _ (hdel _ _ _ (hval _ h1)))

theorem finish_fst (s : Pkg) : ∃ (puts : List (List Char × Bytes.Bytes)) (sm pm : Bool),
    (finish s).1 = { s with cont := puts.foldl (fun c x => Cont.put c x.1 x.2) s.cont, summaryModified := sm,
                            pool := { s.pool with modified := pm } } ∧
    (∀ x ∈ puts, x.1 = sSummary ∨ x.1 = sPool ∨ x.1 = sData) ∧
    ((finish s).2 = .ok () → sm = false ∧ pm = false) := by
  obtain ⟨pt, c, sum, sm, ⟨cp, strs, lr, pm⟩, tabs, fin⟩ := s
  unfold finish
  cases sm with
  | false =>
    cases pm with
    | false => exact ⟨[], false, false, rfl, nofun, fun _ => ⟨rfl, rfl⟩⟩
    | true =>
      simp only [Bool.false_eq_true, if_false, if_true]
      cases Pool.writePool ⟨cp, strs, lr, true⟩ with
      | ok pb =>
        cases Pool.writeData ⟨cp, strs, lr, true⟩ with
        | ok db => exact ⟨[(sPool, pb), (sData, db)], false, false, rfl, by simp, fun _ => ⟨rfl, rfl⟩⟩
        | err k => exact ⟨[], false, true, rfl, nofun, fun h => nomatch h⟩
        | panic w => exact ⟨[], false, true, rfl, nofun, fun h => nomatch h⟩
      | err k => exact ⟨[], false, true, rfl, nofun, fun h => nomatch h⟩
      | panic w => exact ⟨[], false, true, rfl, nofun, fun h => nomatch h⟩
  | true =>
    simp only [if_true]
    cases sum.write with
    | err k => exact ⟨[], true, pm, rfl, nofun, fun h => nomatch h⟩
    | panic w => exact ⟨[], true, pm, rfl, nofun, fun h => nomatch h⟩
    | ok sb =>
      cases pm with
      | false => exact ⟨[(sSummary, sb)], false, false, rfl, by simp, fun _ => ⟨rfl, rfl⟩⟩
      | true =>
        simp only [if_true]
        cases Pool.writePool ⟨cp, strs, lr, true⟩ with
        | ok pb =>
          cases Pool.writeData ⟨cp, strs, lr, true⟩ with
          | ok db =>
            exact ⟨[(sSummary, sb), (sPool, pb), (sData, db)], false, false, rfl, by simp, fun _ => ⟨rfl, rfl⟩⟩
          | err k => exact ⟨[(sSummary, sb)], false, true, rfl, by simp, fun h => nomatch h⟩
          | panic w => exact ⟨[(sSummary, sb)], false, true, rfl, by simp, fun h => nomatch h⟩
        | err k => exact ⟨[(sSummary, sb)], false, true, rfl, by simp, fun h => nomatch h⟩
        | panic w => exact ⟨[(sSummary, sb)], false, true, rfl, by simp, fun h => nomatch h⟩

theorem finish_ok {s s' : Pkg} : finish s = (s', .ok ()) ↔ ∃ c1 c2,
    (if s.summaryModified then ∃ sb, s.summary.write = .ok sb ∧ c1 = Cont.put s.cont sSummary sb else c1 = s.cont) ∧
    (if s.pool.modified then ∃ pb db, s.pool.writePool = .ok pb ∧ s.pool.writeData = .ok db ∧
        c2 = Cont.put (Cont.put c1 sPool pb) sData db else c2 = c1) ∧
    s' = { s with cont := c2, summaryModified := false, pool := { s.pool with modified := false } } := by
  obtain ⟨pt, c, sum, sm, ⟨cp, strs, lr, pm⟩, tabs, fin⟩ := s
  unfold finish
  cases sm with
  | false =>
    cases pm with
    | false => simp [eq_comm]
    | true =>
      cases hp : Pool.writePool ⟨cp, strs, lr, true⟩ <;> cases hd : Pool.writeData ⟨cp, strs, lr, true⟩ <;>
        simp [hp, hd, eq_comm]
  | true =>
    cases sum.write with
    | err k => simp
    | panic w => simp
    | ok sb =>
      cases pm with
      | false => simp [eq_comm]
      | true =>
        cases hp : Pool.writePool ⟨cp, strs, lr, true⟩ <;> cases hd : Pool.writeData ⟨cp, strs, lr, true⟩ <;>
        simp [hp, hd, eq_comm]

theorem flush_eq (s : Pkg) : flush s = if s.finisher then finish { s with finisher := false } else (s, .ok ()) := rfl

theorem openCore_ok {pt : Option Nat} {c : List Entry} {p : Nat} {sm : PropSet} {pl : Pool} {ts : List Table}
    (h : openCore pt c = .ok (p, sm, pl, ts)) : pt = some p ∧ ∃ sb pb db,
      streamOf c sSummary = .ok sb ∧ Summary.read sb = .ok sm ∧ streamOf c sPool = .ok pb ∧
      streamOf c sData = .ok db ∧ Pool.read pb db = .ok pl ∧ openTables p c sm pl = .ok ts := by
  unfold openCore at h
  obtain ⟨p', h0, h⟩ := Res.bind_eq_ok.mp h
  obtain ⟨sb, h1, h⟩ := Res.bind_eq_ok.mp h
  obtain ⟨sm', h2, h⟩ := Res.bind_eq_ok.mp h
  obtain ⟨pb, h3, h⟩ := Res.bind_eq_ok.mp h
  obtain ⟨⟨hdr, r⟩, -, h⟩ := Res.bind_eq_ok.mp h
  obtain ⟨_, -, h⟩ := Res.bind_eq_ok.mp h
  obtain ⟨_, -, h⟩ := Res.bind_eq_ok.mp h
  obtain ⟨db, h7, h⟩ := Res.bind_eq_ok.mp h
  obtain ⟨pl', h8, h⟩ := Res.bind_eq_ok.mp h
  obtain ⟨ts', h9, h⟩ := Res.bind_eq_ok.mp h
  cases h
  exact ⟨Res.ofOption_eq_ok.mp h0, sb, pb, db, h1, h2, h3, h7, h8, h9⟩

open MsiModel.StreamName in
theorem writeStream_eq {s : Pkg} {n : List Char} (d : Bytes.Bytes) (hv : isValid n false = true) :
    writeStream s n d = ({ s with cont := Cont.put s.cont (encode n false) d }, .ok ()) := by
  unfold writeStream; rw [hv]; rfl

open MsiModel.StreamName in
theorem writeStream_refused {s : Pkg} {n : List Char} (d : Bytes.Bytes) (hv : isValid n false = false) :
    writeStream s n d = (s, .err .invalidInput) := by
  unfold writeStream; rw [hv]; rfl

open MsiModel.StreamName in
theorem removeStream_eq {s : Pkg} {n : List Char} (hv : isValid n false = true)
    (hex : Cont.exists_ s.cont (encode n false) = true) :
    removeStream s n = ({ s with cont := Cont.remove s.cont (encode n false) }, .ok ()) := by
  unfold removeStream; rw [hv]; simp only [hex]; rfl

open MsiModel.StreamName in
theorem removeStream_refused {s : Pkg} {n : List Char}
    (h : isValid n false = false ∨ Cont.exists_ s.cont (encode n false) = false) : (removeStream s n).1 = s := by
  unfold removeStream
  split; · rfl
  rcases h with h | h
  · simp_all
  · simp only [h]; rfl

end MsiProofs.Exec

/-! ### `drop_table`'s delete of the `_Validation` rows (only when there is such a table: fix D24) -/

namespace MsiProofs.DeleteValidation
open MsiModel MsiModel.Pkg

theorem deleteValidation_some (s : Pkg) (name : List Char)
    (h : (s.findTable Gen.nameValidation.toList).isSome = true) :
    deleteValidation s name = deleteRows s Gen.nameValidation.toList (eqStr "Table" name) := by
  unfold deleteValidation; rw [if_pos h]

theorem deleteValidation_cases (s : Pkg) (name : List Char) :
    deleteValidation s name = deleteRows s Gen.nameValidation.toList (eqStr "Table" name) ∨
    deleteValidation s name = (s, .ok ()) := by
  unfold deleteValidation
  split
  · exact Or.inl rfl
  · exact Or.inr rfl

end MsiProofs.DeleteValidation
