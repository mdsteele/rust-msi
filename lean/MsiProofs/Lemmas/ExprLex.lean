import MsiModel.ExprLex
import MsiProofs.Lemmas.ExprRead
/-
Lemmas for C19, lexical layer: the lexer reads the printed text of an expression back as
the token form of the printer.
-/
namespace MsiProofs.ExprLex
open MsiModel MsiProofs.ExprRead

theorem lexFrom_nil (st : LexSt) : lexFrom st [] = endTok st := by unfold lexFrom; rfl

theorem lexFrom_cons (st : LexSt) (c : Char) (r : List Char) :
    lexFrom st (c :: r) = (step st c).bind fun x => (lexFrom x.1 r).map (x.2 ++ ·) := by
  rw [lexFrom]

theorem lex_pending {st : LexSt} {out : List Tok} {rest : List Char} {rt : List Tok}
    (he : endTok st = some out)
    (hc : ∀ c r, rest = c :: r → step st c = flushThen st c)
    (hr : lexFrom .idle rest = some rt) :
    lexFrom st rest = some (out ++ rt) := by
  cases rest with
  | nil =>
    rw [lexFrom_nil] at hr ⊢
    cases hr
    rw [he, List.append_nil]
  | cons c r =>
    rw [lexFrom_cons] at hr ⊢
    rw [hc c r rfl]
    simp only [step] at hr
    unfold flushThen
    rw [he]
    cases hs : stepIdle c with
    | none => simp [hs] at hr
    | some p =>
      simp only [hs, Option.bind_some, Option.map_eq_some_iff] at hr ⊢
      obtain ⟨ts, hl, rfl⟩ := hr
      exact ⟨ts, hl, List.append_assoc ..⟩

/-- what may follow an operand in printed text -/
def Follow (rest : List Char) : Prop := ∀ c r, rest = c :: r → c = ' ' ∨ c = ')'

theorem follow_nil : Follow [] := fun _ _ h => by cases h
theorem follow_space (r : List Char) : Follow (' ' :: r) := fun _ _ h => by cases h; exact Or.inl rfl
theorem follow_rp (r : List Char) : Follow (')' :: r) := fun _ _ h => by cases h; exact Or.inr rfl

theorem Follow.not_id {rest r : List Char} {c : Char} (hf : Follow rest) (h : rest = c :: r) :
    isIdChar c = false := by
  rcases hf c r h with rfl | rfl <;> decide

/-- "the text `s` lexes to the tokens `ts`" wherever an operand may stand -/
def LexesTo (s : List Char) (ts : List Tok) : Prop :=
  ∀ rest rt, Follow rest → lexFrom .idle rest = some rt → lexFrom .idle (s ++ rest) = some (ts ++ rt)

/-- the same for text that ends by itself (operators with their blanks, quotes, parentheses) -/
def LexesTo' (s : List Char) (ts : List Tok) : Prop :=
  ∀ rest rt, lexFrom .idle rest = some rt → lexFrom .idle (s ++ rest) = some (ts ++ rt)

theorem LexesTo'.toLexesTo {s : List Char} {ts : List Tok} (h : LexesTo' s ts) : LexesTo s ts :=
  fun rest rt _ hr => h rest rt hr

/-! ### the lexer over the first part of a text

`run st s` is the state reached and the tokens emitted after the characters `s`, whatever comes
next; over a literal text it is a closed term, so what an operator's text lexes to is found by
evaluation, and the text that follows enters once, in `lexFrom_append`. -/

def run : LexSt → List Char → Option (LexSt × List Tok)
  | st, [] => some (st, [])
  | st, c :: r => (step st c).bind fun x => (run x.1 r).map fun y => (y.1, x.2 ++ y.2)

theorem lexFrom_append (s rest : List Char) : ∀ st, lexFrom st (s ++ rest) =
    (run st s).bind fun x => (lexFrom x.1 rest).map (x.2 ++ ·) := by
  induction s with
  | nil => intro st; simp [run]
  | cons c s ih =>
    intro st
    rw [List.cons_append, lexFrom_cons, run]
    cases step st c with
    | none => rfl
    | some x =>
      simp only [Option.bind_some, ih]
      cases run x.1 s with
      | none => rfl
      | some y => simp [Function.comp_def]

theorem lexesTo'_of_run {s : List Char} {ts : List Tok} (h : run .idle s = some (.idle, ts)) :
    LexesTo' s ts := by
  intro rest rt hr
  rw [lexFrom_append, h, Option.bind_some, hr, Option.map_some]

theorem lexesTo_of_run {s : List Char} {st : LexSt} {pre out : List Tok} (h : run .idle s = some (st, pre))
    (he : endTok st = some out) (hd : ∀ c, isIdChar c = false → step st c = flushThen st c) :
    LexesTo s (pre ++ out) := by
  intro rest rt hf hr
  rw [lexFrom_append, h, Option.bind_some, lex_pending he (fun c r e => hd c (hf.not_id e)) hr,
    Option.map_some, List.append_assoc]

theorem run_stay (mk : List Char → LexSt) (P : Char → Prop)
    (hs : ∀ acc c, P c → step (mk acc) c = some (mk (acc ++ [c]), [])) (w : List Char) :
    ∀ acc, (∀ c ∈ w, P c) → run (mk acc) w = some (mk (acc ++ w), []) := by
  induction w with
  | nil => intro acc _; rw [List.append_nil]; rfl
  | cons c w ih =>
    intro acc h
    rw [run, hs acc c (h c List.mem_cons_self), Option.bind_some,
      ih (acc ++ [c]) fun d hd => h d (List.mem_cons_of_mem _ hd), List.append_assoc]
    rfl

theorem step_word (acc : List Char) (c : Char) (h : isIdChar c = true) :
    step (.word acc) c = some (.word (acc ++ [c]), []) := by simp [step, h]

theorem step_num (neg : Bool) (acc : List Char) (c : Char) (h : isDigitC c = true) :
    step (.num neg acc) c = some (.num neg (acc ++ [c]), []) := by simp [step, h]

theorem step_str (acc : List Char) (c : Char) (h : Value.plainChar c = true) :
    step (.str acc) c = some (.str (acc ++ [c]), []) := by
  have h1 : c ≠ '"' := by rintro rfl; revert h; decide
  have h2 : c ≠ '\\' := by rintro rfl; revert h; decide
  simp [step, h1, h2]

/-! ### single characters -/

/-- the characters `stepIdle` treats one by one -/
def punct : List Char := [' ', '(', ')', '~', '=', '+', '*', '/', '&', '|', '^', '<', '>', '!', '-', '"']

theorem punct_not_id : ∀ d ∈ punct, isIdChar d = false := by decide

theorem stepIdle_of_not_punct {c : Char} (h : c ∉ punct) : stepIdle c =
    if isDigitC c then some (.num false [c], []) else if isIdStart c then some (.word [c], []) else none := by
  simp only [punct, List.mem_cons, List.not_mem_nil, or_false, not_or] at h
  simp only [stepIdle, h, if_false]

theorem not_punct_of_id {c : Char} (h : isIdChar c = true) : c ∉ punct :=
  fun hm => by rw [punct_not_id c hm] at h; cases h

theorem idStart_not_digit {c : Char} (h : isIdStart c = true) : isDigitC c = false := by
  cases hd : isDigitC c with
  | false => rfl
  | true =>
    simp only [isIdStart, Bool.or_eq_true, Bool.and_eq_true, decide_eq_true_eq, beq_iff_eq] at h
    simp only [isDigitC, Bool.and_eq_true, decide_eq_true_eq] at hd
    omega

theorem stepIdle_idStart (c : Char) (h : isIdStart c = true) : stepIdle c = some (.word [c], []) := by
  rw [stepIdle_of_not_punct (not_punct_of_id (by simp [isIdChar, h])), idStart_not_digit h, h]
  rfl

theorem stepIdle_digit (c : Char) (h : isDigitC c = true) : stepIdle c = some (.num false [c], []) := by
  rw [stepIdle_of_not_punct (not_punct_of_id (by simp [isIdChar, h])), h]
  rfl

theorem word_delim (acc : List Char) (c : Char) (h : isIdChar c = false) :
    step (.word acc) c = flushThen (.word acc) c := by simp [step, h]

theorem num_delim (neg : Bool) (acc : List Char) (c : Char) (h : isIdChar c = false) :
    step (.num neg acc) c = flushThen (.num neg acc) c := by
  have hd : isDigitC c = false := by
    simp only [isIdChar, Bool.or_eq_false_iff] at h
    exact h.1.2
  simp [step, h, hd]

/-! ### atoms -/

theorem lex_word (c : Char) (w : List Char) (tk : Tok) (hc : isIdStart c = true)
    (hw : ∀ d ∈ w, isIdChar d = true) (ht : wordTok (c :: w) = some tk) : LexesTo (c :: w) [tk] := by
  refine lexesTo_of_run (st := .word (c :: w)) (pre := []) ?_ (by simp [endTok, ht]) (word_delim _)
  rw [run, show step .idle c = _ from stepIdle_idStart c hc, Option.bind_some,
    run_stay .word _ step_word w [c] hw]
  rfl

theorem lex_number (neg : Bool) (d : Char) (ds : List Char) (tk : Tok) (hd : ∀ x ∈ d :: ds, isDigitC x = true)
    (ht : numTok neg (d :: ds) = some tk) : LexesTo ((if neg then ['-'] else []) ++ d :: ds) [tk] := by
  refine lexesTo_of_run (st := .num neg (d :: ds)) (pre := []) ?_ (by simp [endTok, ht]) (num_delim _ _)
  have hds := run_stay (.num neg) _ (step_num neg) ds [d] fun x hx => hd x (List.mem_cons_of_mem _ hx)
  have hd0 := hd d List.mem_cons_self
  cases neg with
  | false =>
    show run .idle (d :: ds) = _
    rw [run, show step .idle d = _ from stepIdle_digit d hd0, Option.bind_some, hds]
    rfl
  | true =>
    show run .idle ('-' :: d :: ds) = _
    have h2 : step .minus d = some (.num true [d], []) := by simp [step, hd0]
    rw [run, show step .idle '-' = some (.minus, []) from rfl, Option.bind_some, run, h2, Option.bind_some, hds]
    rfl

theorem lex_str (s : List Char) (hs : ∀ c ∈ s, Value.plainChar c = true) :
    LexesTo' ('"' :: s ++ ['"']) [.lit (.str s)] := by
  intro rest rt hr
  have h0 : step (.str s) '"' = some (.idle, [.lit (.str s)]) := by simp [step]
  have e : '"' :: s ++ ['"'] ++ rest = '"' :: (s ++ '"' :: rest) := by simp
  rw [e, lexFrom_cons, show step .idle '"' = some (.str [], []) from rfl, Option.bind_some,
    lexFrom_append, run_stay .str _ step_str s [] hs, List.nil_append, Option.bind_some, lexFrom_cons, h0,
    Option.bind_some, hr]
  rfl

theorem isDigitC_of_isDigit (c : Char) (h : c.isDigit = true) : isDigitC c = true := by
  simp only [Char.isDigit, Bool.and_eq_true, decide_eq_true_eq] at h
  simp only [isDigitC, Bool.and_eq_true, decide_eq_true_eq]
  have h1 := UInt32.le_iff_toNat_le.mp h.1
  have h2 := UInt32.le_iff_toNat_le.mp h.2
  have h3 : c.toNat = c.val.toNat := rfl
  simp at h1 h2
  omega

theorem natDigits_spec (k : Nat) :
    ∃ d ds, Value.natDigits k = d :: ds ∧ (∀ x ∈ d :: ds, isDigitC x = true) ∧
      Nat.ofDigitChars 10 (d :: ds) 0 = k := by
  have e : Value.natDigits k = Nat.toDigits 10 k := by simp [Value.natDigits]
  rw [e]
  cases h : Nat.toDigits 10 k with
  | nil => exact absurd h Nat.toDigits_ne_nil
  | cons d ds =>
    refine ⟨d, ds, rfl, ?_, ?_⟩
    · intro x hx
      exact isDigitC_of_isDigit x (Nat.isDigit_of_mem_toDigits (by decide) (by decide) (h ▸ hx))
    · rw [← h]; exact Nat.ofDigitChars_ten_toDigits

theorem display_inv {v : Value} {s : List Char} (h : v.display = some s) :
    (v = .null ∧ s = ['N', 'U', 'L', 'L']) ∨
    (∃ t, v = .str t ∧ (∀ c ∈ t, Value.plainChar c = true) ∧ s = '"' :: t ++ ['"']) ∨
    (∃ n neg d ds, v = .int n ∧ (n.toInt < 0 → neg = true) ∧ (∀ x ∈ d :: ds, isDigitC x = true) ∧
      s = (if neg then ['-'] else []) ++ d :: ds ∧ numTok neg (d :: ds) = some (.lit v)) := by
  cases v with
  | null => exact .inl ⟨rfl, by cases h; decide⟩
  | str t =>
    simp only [Value.display] at h
    split at h
    · rename_i hall
      cases h
      exact .inr (.inl ⟨t, rfl, List.all_eq_true.mp hall, rfl⟩)
    · cases h
  | int n =>
    simp only [Value.display, Option.some.injEq, Value.intDisplay] at h
    have hlo := Int32.le_toInt n
    have hhi := Int32.toInt_lt n
    by_cases hneg : n.toInt < 0
    · obtain ⟨d, ds, hd, hdig, hval⟩ := natDigits_spec n.toInt.natAbs
      have hk : n.toInt.natAbs ≤ 2147483648 := by omega
      have he : -(n.toInt.natAbs : Int) = n.toInt := by omega
      refine .inr (.inr ⟨n, true, d, ds, rfl, fun _ => rfl, hdig, by rw [← h, if_pos hneg, hd]; rfl, ?_⟩)
      simp only [numTok, hval, hk, if_true, he, Int32.ofInt_toInt]
    · obtain ⟨d, ds, hd, hdig, hval⟩ := natDigits_spec n.toInt.toNat
      have hk : n.toInt.toNat < 2147483648 := by omega
      have he : (n.toInt.toNat : Int) = n.toInt := by omega
      refine .inr (.inr ⟨n, false, d, ds, rfl, fun hn => absurd hn hneg, hdig, by rw [← h, if_neg hneg, hd]; rfl, ?_⟩)
      simp only [numTok, hval, hk, if_true, he, Int32.ofInt_toInt]
      rfl

theorem lex_lit (v : Value) (s : List Char) (h : v.display = some s) : LexesTo s [.lit v] := by
  rcases display_inv h with ⟨rfl, rfl⟩ | ⟨t, rfl, ht, rfl⟩ | ⟨n, neg, d, ds, rfl, -, hd, rfl, htok⟩
  · exact lex_word 'N' ['U', 'L', 'L'] _ (by decide) (by decide) (by decide)
  · exact (lex_str t ht).toLexesTo
  · exact lex_number neg d ds _ hd htok

/-! ### operators, parentheses -/

theorem lex_tok (o : IOp) : LexesTo' o.text [o.tok] :=
  lexesTo'_of_run <| by
    cases o with
    | bin op => cases op <;> rfl
    | and => rfl
    | or => rfl

theorem lex_not : LexesTo' Gen.textBoolNot.toList [Tok.not] := lexesTo'_of_run rfl
theorem lex_tilde : LexesTo' Gen.textBitNot.toList [Tok.tilde] := lexesTo'_of_run rfl
theorem lex_lp : LexesTo' ['('] [Tok.lp] := lexesTo'_of_run rfl
theorem lex_rp : LexesTo' [')'] [Tok.rp] := lexesTo'_of_run rfl

theorem lex_prefix_minus (c : Char) (r : List Char) (ts : List Tok) (hc : isDigitC c = false)
    (h : lexFrom .idle (c :: r) = some ts) :
    lexFrom .idle (Gen.textNeg.toList ++ c :: r) = some (Tok.minus :: ts) := by
  have h1 : lexFrom .minus (c :: r) = some ([Tok.minus] ++ ts) :=
    lex_pending rfl (fun c' r' e => by cases e; simp [step, hc]) h
  rw [lexFrom_append, show run .idle Gen.textNeg.toList = some (.minus, []) from rfl, Option.bind_some, h1]
  rfl

/-! ### combinators -/

theorem lexesTo_append' {s1 s2 : List Char} {t1 t2 : List Tok} (h1 : LexesTo' s1 t1) (h2 : LexesTo s2 t2) :
    LexesTo (s1 ++ s2) (t1 ++ t2) := by
  intro rest rt hf hr
  have := h1 (s2 ++ rest) (t2 ++ rt) (h2 rest rt hf hr)
  simpa using this

theorem lexesTo_par (b : Bool) {x : List Char} {tx : List Tok} (h : LexesTo x tx) :
    LexesTo (Ast.paren b x) (parT b tx) := by
  cases b with
  | false => simpa [Ast.paren, parT] using h
  | true =>
    intro rest rt _ hr
    have h1 : lexFrom .idle (')' :: rest) = some (Tok.rp :: rt) := by
      have := lex_rp rest rt hr
      simpa using this
    have h2 := h (')' :: rest) _ (follow_rp rest) h1
    have h3 := lex_lp (x ++ ')' :: rest) _ h2
    simpa [Ast.paren, parT] using h3

theorem text_head (o : IOp) : o.text.head? = some ' ' := by
  cases o with
  | bin op => cases op <;> rfl
  | and => rfl
  | or => rfl

theorem follow_of_head {s : List Char} (h : s.head? = some ' ') (rest : List Char) : Follow (s ++ rest) := by
  cases s with
  | nil => cases h
  | cons c t => cases h; exact follow_space _

/-- `x <op> y`: the operator's text starts with a blank and ends by itself -/
theorem lexesTo_infix (o : IOp) {x y : List Char} {tx ty : List Tok} (hx : LexesTo x tx) (hy : LexesTo y ty) :
    LexesTo (x ++ o.text ++ y) (tx ++ o.tok :: ty) := by
  intro rest rt hf hr
  have h2 := lex_tok o (y ++ rest) _ (hy rest rt hf hr)
  have h3 := hx (o.text ++ (y ++ rest)) _ (follow_of_head (text_head o) _) h2
  simpa using h3

/-- an identifier of the grammar: a letter or `_`, then letters, digits, `_`, `.`; not a keyword -/
def GoodIdent (n : List Char) : Prop :=
  ∃ c w, n = c :: w ∧ isIdStart c = true ∧ (∀ d ∈ w, isIdChar d = true) ∧ wordTok n = some (.ident n)

/-- the domain of the lexical theorem: column names are identifiers, and a prefix minus is not
applied directly to a non-negative integer literal (`Expr`'s constructors fold that case to a
literal, see `good_build`; the text `-5` is the literal) -/
def Good : Ast → Prop
  | .lit _ => True
  | .col n => GoodIdent n
  | .un op a => Good a ∧ (op = .neg → ∀ n, a = .lit (.int n) → n.toInt < 0)
  | .bin _ a b => Good a ∧ Good b
  | .and a b => Good a ∧ Good b
  | .or a b => Good a ∧ Good b

theorem good_mk (o : IOp) (a b : Ast) : Good (o.mk a b) ↔ Good a ∧ Good b := by cases o <;> rfl

theorem join2_some {txt : List Char} {xa xb : Option (List Char)} {s : List Char}
    (h : join2 txt xa xb = some s) : ∃ x y, xa = some x ∧ xb = some y ∧ s = x ++ txt ++ y := by
  cases xa <;> cases xb <;> cases h
  exact ⟨_, _, rfl, rfl, rfl⟩

theorem gprec_lt_neg (o : IOp) : decide (o.gprec < Gen.precNeg) = true := by
  cases o with
  | bin op => cases op <;> rfl
  | and => rfl
  | or => rfl

theorem head_not_digit (a : Ast) (hg : Good a) (hnl : ∀ n, a = .lit (.int n) → n.toInt < 0)
    (s : List Char) (h : a.fmtP Gen.precNeg = some s) : ∃ c r, s = c :: r ∧ isDigitC c = false := by
  cases a using Ast.infixRec with
  | lit v =>
    rcases display_inv (v := v) h with ⟨rfl, rfl⟩ | ⟨t, rfl, -, rfl⟩ | ⟨n, neg, d, ds, rfl, hn, -, rfl, -⟩
    · exact ⟨'N', _, rfl, by decide⟩
    · exact ⟨'"', _, rfl, by decide⟩
    · rw [hn (hnl n rfl)]
      exact ⟨'-', _, rfl, by decide⟩
  | col n =>
    obtain ⟨c, w, rfl, hc, -, -⟩ := hg
    cases h
    exact ⟨c, w, rfl, idStart_not_digit hc⟩
  | un op b =>
    simp only [fmtP_un, Option.map_eq_some_iff] at h
    obtain ⟨_, ⟨sb, -, rfl⟩, rfl⟩ := h
    cases op with
    | neg => exact ⟨'-', sb, rfl, by decide⟩
    | bitNot => exact ⟨'~', sb, rfl, by decide⟩
    | boolNot => exact ⟨'(', _, rfl, by decide⟩
  | infx o x y =>
    rw [fmtP_mk, gprec_lt_neg] at h
    obtain ⟨sj, -, rfl⟩ := Option.map_eq_some_iff.mp h
    exact ⟨'(', _, rfl, by decide⟩

/-- **the lexer reads the printed text back as the printer's token form** -/
theorem lex_fmtP (e : Ast) : Good e → ∀ p s, e.fmtP p = some s → LexesTo s (toks e p) := by
  induction e using Ast.infixRec with
  | lit v =>
    intro _ p s h
    exact lex_lit v s h
  | col n =>
    intro hg p s h
    obtain ⟨c, w, rfl, hc, hw, ht⟩ := hg
    cases h
    exact lex_word c w _ hc hw ht
  | un op a iha =>
    intro hg p s h
    simp only [fmtP_un, Option.map_eq_some_iff] at h
    obtain ⟨_, ⟨sa, ha, rfl⟩, rfl⟩ := h
    have ih := iha hg.1 op.prec sa ha
    have hbody : LexesTo (op.text.toList ++ sa) (unTok op :: toks a op.prec) := by
      cases op with
      | bitNot => exact lexesTo_append' lex_tilde ih
      | boolNot => exact lexesTo_append' lex_not ih
      | neg =>
        -- `-` directly before a digit would be read as the sign of a number
        obtain ⟨c, r, rfl, hc⟩ := head_not_digit a hg.1 (hg.2 rfl) sa ha
        intro rest rt hf hr
        exact lex_prefix_minus c (r ++ rest) _ hc (ih rest rt hf hr)
    exact lexesTo_par _ hbody
  | infx o a b iha ihb =>
    intro hg p s h
    rw [fmtP_mk] at h
    obtain ⟨sj, hj, rfl⟩ := Option.map_eq_some_iff.mp h
    obtain ⟨x, y, hx, hy, rfl⟩ := join2_some hj
    obtain ⟨ga, gb⟩ := (good_mk o a b).mp hg
    rw [toks_mk]
    exact lexesTo_par _ (lexesTo_infix o (iha ga _ _ hx) (ihb gb _ _ hy))

/-- **read (print e) = e, from characters**: for every expression in the domain whose printed
text exists (no literal needs an escape), lexing that text and reading the tokens with the
grammar's ladder gives the expression back -/
theorem readText_fmt (e : Ast) (hg : Good e) (s : List Char) (h : e.fmt = some s) : readText s = some e := by
  have := lex_fmtP e hg 0 s h [] [] follow_nil (by rw [lexFrom_nil]; rfl)
  simp only [List.append_nil] at this
  unfold readText lex
  rw [this]
  exact readExpr_toks e


/-! ### expressions built through the API are in the domain -/

theorem good_mkUn (op : UnOp) (a : Ast) (h : Good a) : Good (Ast.mkUn op a) := by
  unfold Ast.mkUn
  split
  · trivial
  · rename_i hnl
    exact ⟨h, fun _ n e => absurd e (hnl _)⟩

theorem good_mkBin (op : BinOp) (a b : Ast) (ha : Good a) (hb : Good b) : Good (Ast.mkBin op a b) := by
  unfold Ast.mkBin
  split
  · trivial
  · exact ⟨ha, hb⟩

/-- whatever tree of constructor calls the user writes, the expression the API builds from it
(literal arguments folded) is in the domain as soon as its column names are identifiers -/
theorem good_build (e : Ast) (h : ∀ n ∈ e.columns, GoodIdent n) : Good e.build := by
  induction e with
  | lit v => trivial
  | col n => exact h n List.mem_cons_self
  | un op a iha => exact good_mkUn op _ (iha h)
  | bin op a b iha ihb =>
    exact good_mkBin op _ _ (iha fun n hn => h n (List.mem_append_left _ hn))
      (ihb fun n hn => h n (List.mem_append_right _ hn))
  | and a b iha ihb =>
    exact ⟨iha fun n hn => h n (List.mem_append_left _ hn), ihb fun n hn => h n (List.mem_append_right _ hn)⟩
  | or a b iha ihb =>
    exact ⟨iha fun n hn => h n (List.mem_append_left _ hn), ihb fun n hn => h n (List.mem_append_right _ hn)⟩

end MsiProofs.ExprLex
