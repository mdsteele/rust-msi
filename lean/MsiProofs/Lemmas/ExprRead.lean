import MsiModel.ExprRead
/-
Lemmas for C19: the precedence-climbing reader inverts the token form of the printer.
-/
namespace MsiProofs.ExprRead
open MsiModel

theorem parse_mono_le : ∀ {f f' : Nat}, f ≤ f' → ∀ {md : Mode} {ts : List Tok} {r : Ast × List Tok},
    parse f md ts = some r → parse f' md ts = some r := by
  intro f
  induction f with
  | zero => intro f' _ md ts r h; simp [parse] at h
  | succ f ih =>
    intro f' hle md ts r h
    obtain ⟨g, rfl⟩ : ∃ g, f' = g + 1 := ⟨f' - 1, by omega⟩
    have ih : ∀ {md ts r}, parse f md ts = some r → parse g md ts = some r := ih (by omega)
    cases md with
    | prim =>
      unfold parse at h ⊢
      split at h
      · exact h
      · exact h
      · split at h
        · rename_i heq
          rw [ih heq]; exact h
        · simp at h
      · split at h
        · rename_i heq
          rw [ih heq]; exact h
        · simp at h
      · split at h
        · rename_i heq
          rw [ih heq]; exact h
        · simp at h
      · split at h
        · rename_i heq
          rw [ih heq]; exact h
        · simp at h
      · simp at h
    | expr m =>
      unfold parse at h ⊢
      split at h
      · rename_i heq
        rw [ih heq]; exact ih h
      · simp at h
    | loop m l =>
      unfold parse at h ⊢
      split at h
      · exact h
      · split at h
        · split at h
          · rename_i hm
            split at h
            · rename_i heq
              simp only [hm, if_true, ih heq]; exact ih h
            · simp at h
          · rename_i hm
            simp only [hm, if_false]; exact h
        · exact h

/-! one-step equations of the reader -/
theorem expr_step {f m : Nat} {ts r : List Tok} {l : Ast} {x : Ast × List Tok}
    (h1 : parse f .prim ts = some (l, r)) (h2 : parse f (.loop m l) r = some x) :
    parse (f+1) (.expr m) ts = some x := by
  unfold parse; simp only [h1]; exact h2

theorem prim_lit (f : Nat) (v : Value) (r : List Tok) : parse (f+1) .prim (.lit v :: r) = some (.lit v, r) := by
  unfold parse; rfl
theorem prim_ident (f : Nat) (n : List Char) (r : List Tok) : parse (f+1) .prim (.ident n :: r) = some (.col n, r) := by
  unfold parse; rfl
theorem prim_lp {f : Nat} {r r' : List Tok} {e : Ast} (h : parse f (.expr 0) r = some (e, .rp :: r')) :
    parse (f+1) .prim (.lp :: r) = some (e, r') := by
  unfold parse; simp only [h]

/-- the level at which a prefix operator reads its operand -/
def readPrecUn : UnOp → Nat
  | .boolNot => readPrecNot
  | _ => readPrecNeg

theorem prim_un (op : UnOp) {f : Nat} {r r' : List Tok} {e : Ast}
    (h : parse f (.expr (readPrecUn op)) r = some (e, r')) :
    parse (f+1) .prim (unTok op :: r) = some (.un op e, r') := by
  cases op
  all_goals
    simp only [readPrecUn] at h
    unfold parse
    simp only [unTok, h]

theorem loop_step {f m : Nat} {t : Tok} {o : IOp} {r r' : List Tok} {l rhs : Ast} {x : Ast × List Tok}
    (ho : infixOf t = some o) (hm : m ≤ o.prec)
    (h1 : parse f (.expr (o.prec + 1)) r = some (rhs, r'))
    (h2 : parse f (.loop m (o.mk l rhs)) r' = some x) :
    parse (f+1) (.loop m l) (t :: r) = some x := by
  unfold parse; simp only [ho, hm, if_true, h1]; exact h2

/-- the token after an operand does not continue a level-`k` chain -/
def Stops (k : Nat) (rest : List Tok) : Prop :=
  ∀ t r o, rest = t :: r → infixOf t = some o → o.prec < k

theorem Stops.weaken {k k' : Nat} {rest : List Tok} (h : Stops k rest) (hk : k ≤ k') : Stops k' rest :=
  fun t r o h1 h2 => Nat.lt_of_lt_of_le (h t r o h1 h2) hk

theorem stops_nil (k : Nat) : Stops k [] := fun _ _ _ h _ => by cases h

theorem stops_rp (k : Nat) (r : List Tok) : Stops k (.rp :: r) := by
  intro t r' o h1 h2
  cases h1
  simp [infixOf] at h2

theorem loop_stop {k m : Nat} {rest : List Tok} (h : Stops k rest) (hk : k ≤ m) (l : Ast) (f : Nat) :
    parse (f+1) (.loop m l) rest = some (l, rest) := by
  unfold parse
  cases rest with
  | nil => rfl
  | cons t r =>
    simp only
    cases ho : infixOf t with
    | none => rfl
    | some o =>
      have := h t r o rfl ho
      have hn : ¬ m ≤ o.prec := by omega
      simp [hn]

/-- fuel that suffices to read the token form of an expression -/
def cost : Ast → Nat
  | .lit _ => 2
  | .col _ => 2
  | .un _ a => cost a + 6
  | .bin _ a b => cost a + cost b + 6
  | .and a b => cost a + cost b + 6
  | .or a b => cost a + cost b + 6

/-- what the main induction proves for one expression -/
def Reads (e : Ast) (c : Nat) : Prop :=
  ∀ (p m : Nat) (rest : List Tok) (f : Nat) (r : Ast × List Tok),
    m ≤ p → Stops (p+1) rest → parse f (.loop m e) rest = some r →
    parse (f + c) (.expr m) (toks e p ++ rest) = some r

/-- parenthesised iff looser than the context: both branches from the unparenthesised body -/
theorem wrap (e : Ast) (body : List Tok) (q c : Nat)
    (hU : ∀ (m : Nat) (rest : List Tok) (f : Nat) (r : Ast × List Tok),
      m ≤ q → Stops (q+1) rest → parse f (.loop m e) rest = some r →
      parse (f + c) (.expr m) (body ++ rest) = some r)
    (p m : Nat) (rest : List Tok) (f : Nat) (r : Ast × List Tok)
    (hm : m ≤ p) (hs : Stops (p+1) rest) (h : parse f (.loop m e) rest = some r) :
    parse (f + (c + 3)) (.expr m) (parT (decide (q < p)) body ++ rest) = some r := by
  by_cases hq : q < p
  · have hlist : parT (decide (q < p)) body ++ rest = Tok.lp :: (body ++ (Tok.rp :: rest)) := by
      simp [parT, hq]
    rw [hlist]
    have h1 : parse (1 + c) (.expr 0) (body ++ (Tok.rp :: rest)) = some (e, Tok.rp :: rest) :=
      hU 0 (Tok.rp :: rest) 1 _ (Nat.zero_le _) (stops_rp _ _) (loop_stop (stops_rp 0 rest) (Nat.le_refl _) e 0)
    have h1' : parse (f + c + 1) (.expr 0) (body ++ (Tok.rp :: rest)) = some (e, Tok.rp :: rest) :=
      parse_mono_le (by omega) h1
    have h3 : parse (f + c + 2) (.loop m e) rest = some r := parse_mono_le (by omega) h
    exact expr_step (prim_lp h1') h3
  · have hlist : parT (decide (q < p)) body ++ rest = body ++ rest := by simp [parT, hq]
    rw [hlist]
    have := hU m rest f r (by omega) (hs.weaken (by omega)) h
    exact parse_mono_le (by omega) this

theorem ladder_un (op : UnOp) : readPrecUn op = op.prec := by cases op <;> rfl

theorem infix_prec_ne (o : IOp) (op : UnOp) : o.prec ≠ op.prec := by
  rw [← ladder_un]
  cases o with
  | bin b => cases b <;> cases op <;> decide
  | and => cases op <;> decide
  | or => cases op <;> decide

theorem unary_body (op : UnOp) (a : Ast) (ca : Nat) (iha : Reads a ca)
    (m : Nat) (rest : List Tok) (f : Nat) (r : Ast × List Tok)
    (hs : Stops (op.prec + 1) rest) (h : parse f (.loop m (.un op a)) rest = some r) :
    parse (f + (ca + 3)) (.expr m) ((unTok op :: toks a op.prec) ++ rest) = some r := by
  have hstop : Stops op.prec rest := fun t r' o h1 h2 =>
    Nat.lt_of_le_of_ne (Nat.le_of_lt_succ (hs t r' o h1 h2)) (infix_prec_ne o op)
  have h1 : parse (1 + ca) (.expr op.prec) (toks a op.prec ++ rest) = some (a, rest) :=
    iha op.prec op.prec rest 1 _ (Nat.le_refl _) hs (loop_stop hstop (Nat.le_refl _) a 0)
  have h1' : parse (f + ca + 1) (.expr (readPrecUn op)) (toks a op.prec ++ rest) = some (a, rest) := by
    rw [ladder_un]; exact parse_mono_le (by omega) h1
  have h3 : parse (f + ca + 1 + 1) (.loop m (.un op a)) rest = some r := parse_mono_le (by omega) h
  exact expr_step (prim_un op h1') h3

/-! ### the three binary constructors as one

`IOp.mk o a b` is `.bin op a b`, `.and a b` or `.or a b`; the printer treats all three alike,
with the level, token and text below. -/

/-- the printer's level of an infix operator (regenerated from the source) -/
def _root_.MsiModel.IOp.gprec : IOp → Nat
  | .bin o => o.prec | .and => Gen.precAnd | .or => Gen.precOr
def _root_.MsiModel.IOp.tok : IOp → Tok
  | .bin o => binTok o | .and => .and | .or => .or
def _root_.MsiModel.IOp.text : IOp → List Char
  | .bin o => o.text.toList | .and => Gen.textAnd.toList | .or => Gen.textOr.toList

theorem _root_.MsiModel.Ast.infixRec {motive : Ast → Prop} (lit : ∀ v, motive (.lit v))
    (col : ∀ n, motive (.col n)) (un : ∀ op a, motive a → motive (.un op a))
    (infx : ∀ (o : IOp) a b, motive a → motive b → motive (o.mk a b)) (e : Ast) : motive e := by
  induction e with
  | lit v => exact lit v
  | col n => exact col n
  | un op a iha => exact un op a iha
  | bin op a b iha ihb => exact infx (.bin op) a b iha ihb
  | and a b iha ihb => exact infx .and a b iha ihb
  | or a b iha ihb => exact infx .or a b iha ihb

theorem toks_mk (o : IOp) (a b : Ast) (p : Nat) : toks (o.mk a b) p =
    parT (decide (o.gprec < p)) (toks a o.gprec ++ o.tok :: toks b (o.gprec + 1)) := by
  cases o <;> rfl

theorem cost_mk (o : IOp) (a b : Ast) : cost (o.mk a b) = cost a + cost b + 6 := by cases o <;> rfl

/-- the reader's ladder is the printer's (regenerated) precedence table -/
theorem ladder (o : IOp) : o.prec = o.gprec := by
  cases o with
  | bin op => cases op <;> rfl
  | and => rfl
  | or => rfl

theorem infixOf_tok (o : IOp) : infixOf o.tok = some o := by
  cases o with
  | bin op => cases op <;> rfl
  | and => rfl
  | or => rfl

theorem infix_body (o : IOp) (a b : Ast) (ca cb : Nat)
    (iha : Reads a ca) (ihb : Reads b cb)
    (m : Nat) (rest : List Tok) (f : Nat) (r : Ast × List Tok)
    (hm : m ≤ o.gprec) (hs : Stops (o.gprec + 1) rest) (h : parse f (.loop m (o.mk a b)) rest = some r) :
    parse (f + (ca + cb + 3)) (.expr m) ((toks a o.gprec ++ o.tok :: toks b (o.gprec + 1)) ++ rest) = some r := by
  rw [← ladder] at hm hs ⊢
  have hk := infixOf_tok o
  have hb : parse (1 + cb) (.expr (o.prec + 1)) (toks b (o.prec + 1) ++ rest) = some (b, rest) :=
    ihb (o.prec + 1) (o.prec + 1) rest 1 _ (Nat.le_refl _) (hs.weaken (by omega))
      (loop_stop hs (Nat.le_refl _) b 0)
  have hb' : parse (f + cb + 2) (.expr (o.prec + 1)) (toks b (o.prec + 1) ++ rest) = some (b, rest) :=
    parse_mono_le (by omega) hb
  have hl : parse (f + cb + 2 + 1) (.loop m a) (o.tok :: (toks b (o.prec + 1) ++ rest)) = some r :=
    loop_step hk hm hb' (parse_mono_le (by omega) h)
  have hst : Stops (o.prec + 1) (o.tok :: (toks b (o.prec + 1) ++ rest)) := by
    intro t r' o' h1 h2
    cases h1
    rw [hk] at h2
    cases h2
    omega
  have := iha o.prec m _ (f + cb + 2 + 1) r hm hst hl
  have hlist : (toks a o.prec ++ o.tok :: toks b (o.prec + 1)) ++ rest
      = toks a o.prec ++ o.tok :: (toks b (o.prec + 1) ++ rest) := by simp
  rw [hlist]
  exact parse_mono_le (by omega) this

/-- **key lemma**: reading the tokens of `e` (printed in any context `p`) from any start level
`m ≤ p`, followed by anything that does not continue a level above `p`, yields `e` as the left
operand and continues with what follows -/
theorem reads (e : Ast) : Reads e (cost e) := by
  induction e using Ast.infixRec with
  | lit v =>
    intro p m rest f r _ _ h
    exact expr_step (prim_lit f v rest) (parse_mono_le (Nat.le_succ _) h)
  | col n =>
    intro p m rest f r _ _ h
    exact expr_step (prim_ident f n rest) (parse_mono_le (Nat.le_succ _) h)
  | un op a iha =>
    intro p m rest f r hm hs h
    exact wrap (.un op a) (unTok op :: toks a op.prec) op.prec (cost a + 3) (fun m rest f r _ => unary_body op a (cost a) iha m rest f r) p m rest f r hm hs h
  | infx o a b iha ihb =>
    intro p m rest f r hm hs h
    rw [toks_mk, cost_mk]
    exact wrap (o.mk a b) _ o.gprec (cost a + cost b + 3) (infix_body o a b (cost a) (cost b) iha ihb) p m rest f r hm hs h


theorem length_parT (b : Bool) (ts : List Tok) : ts.length ≤ (parT b ts).length := by
  cases b <;> simp [parT] <;> omega

theorem cost_le (e : Ast) : ∀ p, cost e + 4 ≤ 6 * (toks e p).length := by
  induction e using Ast.infixRec with
  | lit v => intro p; simp [toks, cost]
  | col n => intro p; simp [toks, cost]
  | un op a iha =>
    intro p
    have h1 := length_parT (decide (op.prec < p)) (unTok op :: toks a op.prec)
    have h2 := iha op.prec
    simp only [toks, cost, List.length_cons] at *
    omega
  | infx o a b iha ihb =>
    intro p
    have h1 := length_parT (decide (o.gprec < p)) (toks a o.gprec ++ o.tok :: toks b (o.gprec + 1))
    have h2 := iha o.gprec
    have h3 := ihb (o.gprec + 1)
    rw [toks_mk, cost_mk]
    simp only [List.length_cons, List.length_append] at *
    omega

/-- **the reader inverts the printer** (token level): for every expression tree, reading the
tokens the printer writes, with the grammar's ladder, gives the tree back -/
theorem readExpr_toks (e : Ast) : readExpr (toks e 0) = some e := by
  have h := reads e 0 0 [] 1 (e, []) (Nat.le_refl _) (stops_nil _) (loop_stop (stops_nil 0) (Nat.le_refl _) e 0)
  have hc := cost_le e 0
  rw [List.append_nil] at h
  have h' : parse (6 * (toks e 0).length + 6) (.expr 0) (toks e 0) = some (e, []) :=
    parse_mono_le (by omega) h
  unfold readExpr
  rw [h']

theorem parse_toks_in_context (e : Ast) (p : Nat) (rest : List Tok) (hs : Stops p rest) :
    ∃ f, parse f (.expr p) (toks e p ++ rest) = some (e, rest) :=
  ⟨1 + cost e, reads e p p rest 1 _ (Nat.le_refl _) (hs.weaken (by omega)) (loop_stop hs (Nat.le_refl _) e 0)⟩


/-! ### the token form is the printer's text -/

/-- "the tokens `ts` spell the text `x` and end an operand" -/
def Spells (ts : List Tok) (x : Option (List Char)) : Prop :=
  ∀ rest, render true (ts ++ rest) =
    match x, render false rest with
    | some s, some t => some (s ++ t)
    | _, _ => none

theorem render_cons (pre : Bool) (t : Tok) (r : List Tok) : render pre (t :: r) =
    match spell pre t, render (operandNext t) r with
    | some s, some rest => some (s ++ rest)
    | _, _ => none := rfl

theorem spells_par (b : Bool) (body : List Tok) (x : Option (List Char)) (h : Spells body x) :
    Spells (parT b body) (x.map (Ast.paren b)) := by
  intro rest
  cases b with
  | false =>
    have := h rest
    cases x <;> simpa [parT, Ast.paren] using this
  | true =>
    have hl : parT true body ++ rest = Tok.lp :: (body ++ (Tok.rp :: rest)) := by simp [parT]
    rw [hl, render_cons, show operandNext Tok.lp = true from rfl, h (Tok.rp :: rest), render_cons]
    simp only [operandNext, spell]
    cases x <;> cases render false rest <;> simp [Ast.paren]

theorem spells_un (op : UnOp) (ta : List Tok) (xa : Option (List Char)) (h : Spells ta xa) :
    Spells (unTok op :: ta) (xa.map fun s => op.text.toList ++ s) := by
  intro rest
  have h1 : operandNext (unTok op) = true := by cases op <;> rfl
  have h2 : spell true (unTok op) = some op.text.toList := by cases op <;> rfl
  rw [List.cons_append, render_cons, h1, h2, h rest]
  cases xa <;> cases render false rest <;> simp

def join2 (txt : List Char) : Option (List Char) → Option (List Char) → Option (List Char)
  | some x, some y => some (x ++ txt ++ y)
  | _, _ => none

theorem spell_tok (o : IOp) : operandNext o.tok = true ∧ spell false o.tok = some o.text := by
  cases o with
  | bin op => cases op <;> exact ⟨rfl, rfl⟩
  | and => exact ⟨rfl, rfl⟩
  | or => exact ⟨rfl, rfl⟩

theorem spells_infix (o : IOp) (ta tb : List Tok) (xa xb : Option (List Char)) (ha : Spells ta xa)
    (hb : Spells tb xb) : Spells (ta ++ o.tok :: tb) (join2 o.text xa xb) := by
  intro rest
  have hl : (ta ++ o.tok :: tb) ++ rest = ta ++ (o.tok :: (tb ++ rest)) := by simp
  rw [hl, ha, render_cons, (spell_tok o).1, (spell_tok o).2, hb]
  cases xa <;> cases xb <;> cases render false rest <;> simp [join2]

theorem fmtP_un (op : UnOp) (a : Ast) (p : Nat) : (Ast.un op a).fmtP p =
    ((a.fmtP op.prec).map fun s => op.text.toList ++ s).map (Ast.paren (decide (op.prec < p))) := by
  simp only [Ast.fmtP]
  cases a.fmtP op.prec <;> rfl

theorem fmtP_mk (o : IOp) (a b : Ast) (p : Nat) : (o.mk a b).fmtP p =
    (join2 o.text (a.fmtP o.gprec) (b.fmtP (o.gprec + 1))).map (Ast.paren (decide (o.gprec < p))) := by
  cases o
  all_goals
    simp only [IOp.mk, Ast.fmtP, IOp.gprec, IOp.text]
    cases a.fmtP _ <;> cases b.fmtP _ <;> rfl

/-- **the token form of the printer is the printer**: rendering `toks e p` (each token with the
spelling regenerated from the source, `-` by position) gives exactly `fmtP e p`, the model of
`format_with_precedence` that is diffed against the real `to_string()` on every run -/
theorem spells_toks (e : Ast) : ∀ p, Spells (toks e p) (e.fmtP p) := by
  induction e using Ast.infixRec with
  | lit v => exact fun p rest => rfl
  | col n => exact fun p rest => rfl
  | un op a iha =>
    intro p
    rw [fmtP_un]
    exact spells_par (decide (op.prec < p)) _ _ (spells_un op _ _ (iha op.prec))
  | infx o a b iha ihb =>
    intro p
    rw [fmtP_mk, toks_mk]
    exact spells_par (decide (o.gprec < p)) _ _
      (spells_infix o _ _ _ _ (iha o.gprec) (ihb (o.gprec + 1)))

theorem render_toks (e : Ast) : render true (toks e 0) = e.fmt := by
  have := spells_toks e 0 []
  rw [List.append_nil] at this
  rw [this]
  show (match e.fmtP 0, some [] with | some s, some t => some (s ++ t) | _, _ => none) = e.fmtP 0
  cases e.fmtP 0 <;> simp

end MsiProofs.ExprRead
