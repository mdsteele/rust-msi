import MsiProofs.Lemmas.SortUpd
/-
The frame condition at package level (property C03): an insert, update or delete on one table —
accepted or refused — leaves every OTHER table reading exactly the same rows with exactly the same
values, and leaves the table list and the reference width as they were.
-/
namespace MsiProofs.Frame
open MsiModel MsiModel.Bytes MsiModel.Pkg MsiProofs.Refine MsiProofs.RefineDelete MsiProofs.RefineExact
open MsiProofs.SaveOpen MsiProofs.RowsOk MsiProofs.GlobalInv MsiProofs.RefineUpdate MsiProofs.SortedInv

/-- what every other table keeps -/
structure Kept (s s' : Pkg) (tname : List Char) : Prop where
  tables : s'.tables = s.tables
  long : s'.pool.longRefs = s.pool.longRefs
  rows : ∀ x ∈ s.tables, x.name ≠ tname → s'.loadRows x = s.loadRows x
  vals : ∀ x ∈ s.tables, x.name ≠ tname → ∀ rows, s.loadRows x = .ok rows →
    ∀ r ∈ rows, rowValues s'.pool r = rowValues s.pool r

theorem Kept.refl (s : Pkg) (tn : List Char) : Kept s s tn := ⟨rfl, rfl, fun _ _ _ => rfl, fun _ _ _ _ _ _ _ => rfl⟩

theorem findTable_name {s : Pkg} {n : List Char} {t : Table} (h : s.findTable n = some t) : t.name = n := by
  unfold Pkg.findTable at h
  have := List.find?_some h
  simpa using this

theorem step_kept {slack : Nat → Nat} {s s' : Pkg} {tname : List Char} {t : Table} {existing : List (List Cell)}
    (hI : Inv slack s) (hf : s.findTable tname = some t) (hl : s.loadRows t = .ok existing)
    (hstep : ∀ others, PosRefs (existing.flatten ++ others) →
      AccountedWith slack s.pool (existing.flatten ++ others) → StepOn slack s s' t others) : Kept s s' tname := by
  obtain ⟨htabs, hlong, hoth⟩ := step_others hI (MsiProofs.Synced.findTable_mem hf) hl hstep
  have hne : ∀ x : Table, x.name ≠ tname → x ≠ t := fun x hx e => hx (e ▸ findTable_name hf)
  exact ⟨htabs, hlong, fun x hx hn => (hoth x hx (hne x hn)).1, fun x hx hn => (hoth x hx (hne x hn)).2⟩

theorem insert_kept (slack : Nat → Nat) (s : Pkg) (tname : List Char) (rows : List (List Value)) (s' : Pkg)
    (hI : Inv slack s) (h : insertExec s tname rows = (s', .ok ())) : Kept s s' tname := by
  obtain ⟨t, existing, hf, htm, hl, hlr, hrs⟩ := hI.found (Exec.insertExec_eq s tname rows ▸ h)
  exact step_kept hI hf hl (insert_step h hf hl hI.sized hlr hrs)

theorem delete_kept (slack : Nat → Nat) (s : Pkg) (tname : List Char) (cond : Option Ast) (s' : Pkg)
    (hI : Inv slack s) (h : deleteExec s tname cond = (s', .ok ())) : Kept s s' tname := by
  obtain ⟨t, existing, hf, htm, hl, hlr, hrs⟩ := hI.found (Exec.deleteExec_eq s tname cond ▸ h)
  exact step_kept hI hf hl (delete_step h hf hl hI.sized hrs)

theorem update_kept (slack : Nat → Nat) (s : Pkg) (tname : List Char) (updates : List (List Char × Value))
    (cond : Option Ast) (s' : Pkg) (hI : Inv slack s) (h : updateExec s tname updates cond = (s', .ok ())) :
    Kept s s' tname := by
  obtain ⟨t, existing, hf, htm, hl, hlr, hrs⟩ := hI.found (Exec.updateExec_eq s tname updates cond ▸ h)
  exact step_kept hI hf hl (MsiProofs.GlobalInvUpd.update_step h hf hl hI.sized hlr hrs)

/-- the table a statement works on -/
def target : MsiProofs.GlobalInvUpd.Op → List Char
  | .insert t _ => t
  | .delete t _ => t
  | .update t _ _ => t

/-- **the frame condition**: whatever the statement and whether it is accepted or refused, every
other table reads the same rows with the same values afterwards -/
theorem op_kept (slack : Nat → Nat) (s : Pkg) (hI : Inv slack s) : (op : MsiProofs.GlobalInvUpd.Op) →
    Kept s (op.run s) (target op)
  | .insert t rows =>
    step_cases (insert_refused_noop slack s t rows hI) (.refl s t) fun s' h => insert_kept slack s t rows s' hI h
  | .delete t cond =>
    step_cases (delete_refused_noop slack s t cond hI) (.refl s t) fun s' h => delete_kept slack s t cond s' hI h
  | .update t ups cond =>
    step_cases (MsiProofs.GlobalInvUpd.update_refused_noop slack s t ups cond hI) (.refl s t)
      fun s' h => update_kept slack s t ups cond s' hI h

end MsiProofs.Frame
