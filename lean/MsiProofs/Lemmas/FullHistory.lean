import MsiProofs.Lemmas.CreateTable
import MsiProofs.Lemmas.EndToEnd
/-
Histories of statements and `create_table` calls: every invariant is kept, so the package
reopens as it was.
-/
namespace MsiProofs.FullHistory
open MsiModel MsiModel.Bytes MsiModel.Pkg MsiProofs.CatalogOpen MsiProofs.CatalogCodec MsiProofs.CatalogSync
open MsiProofs.GlobalInv MsiProofs.SortedInv MsiProofs.CatalogRows MsiProofs.Frame MsiProofs.Refine
open MsiProofs.SaveOpen MsiProofs.CreateTable MsiProofs.StreamsMap

/-- every table stream of the container belongs to a table of the package, and table names are
valid stream names -/
structure NoOrphans (s : Pkg) : Prop where
  valid : ∀ x ∈ s.tables, StreamName.isValid x.name true = true
  owned : ∀ n, StreamName.isValid n true = true → MsiProofs.Synced.NotMeta (StreamName.encode n true) →
    dataOf s.cont (StreamName.encode n true) ≠ none → ∃ t ∈ s.tables, t.name = n

theorem noOrphans_put (s : Pkg) (h : NoOrphans s) (t : Table) (ht : t ∈ s.tables) (pool' : Pool) (bs : Bytes) :
    NoOrphans { s with pool := pool', cont := Cont.put s.cont t.streamName bs } := by
  refine ⟨h.valid, ?_⟩
  intro n hv hnm hd
  by_cases hk : key t.streamName = key (StreamName.encode n true)
  · exact ⟨t, ht, MsiProofs.Synced.table_stream_injective t.name n (h.valid t ht) hv hk⟩
  · exact h.owned n hv hnm (by rw [← dataOf_put_other s.cont t.streamName _ bs hk]; exact hd)

theorem noOrphans_shape (s s' : Pkg) (tn : List Char) (hs : DmlShape s s' tn) (h : NoOrphans s) : NoOrphans s' := by
  rcases hs with rfl | ⟨t, pool', rows, hf, -, rfl⟩
  · exact h
  · rcases MsiProofs.Exec.storeRows_fst { s with pool := pool' } t rows with e | ⟨bs, e⟩ <;> rw [e]
    · exact ⟨h.valid, h.owned⟩
    · exact noOrphans_put s h t (MsiProofs.Synced.findTable_mem hf) pool' bs


theorem noOrphans_finisher (s : Pkg) (h : NoOrphans s) {b : Bool} : NoOrphans { s with finisher := b } := ⟨h.valid, h.owned⟩

theorem noOrphans_insertRows (s : Pkg) (h : NoOrphans s) (tn : List Char) (R : List (List Value)) :
    NoOrphans (insertRows s tn R).1 :=
  noOrphans_shape _ _ tn (insertExec_shape _ tn R) (noOrphans_finisher s h)

theorem noOrphans_createTable (s : Pkg) (h : NoOrphans s) (name : List Char) (cols : List Column) :
    NoOrphans (createTable s name cols).1 := by
  refine MsiProofs.Exec.createTable_keeps_named (P := NoOrphans)
    (fun s tn rows h => noOrphans_insertRows s h tn rows) ?_ s h
  intro hv _ s2 long g2
  simp only [Table.isValidName, Bool.and_eq_true] at hv
  refine ⟨?_, ?_⟩
  · intro x hx
    rcases MsiProofs.Synced.insertTable_mem _ _ _ hx with rfl | hx
    · exact hv.2
    · exact g2.valid x hx
  · intro n hn hm hd
    obtain ⟨t, ht, hnm⟩ := g2.owned n hn hm hd
    by_cases hnn : t.name = name
    · exact ⟨_, MsiProofs.CatalogSync.mem_insertTable_self _ _, hnn ▸ hnm⟩
    · exact ⟨t, MsiProofs.CatalogSync.mem_insertTable_of_mem _ _ _ ht hnn, hnm⟩


theorem op_shape (s : Pkg) : (op : MsiProofs.GlobalInvUpd.Op) → DmlShape s (op.run s) (target op)
  | .insert t rows => insertExec_shape s t rows
  | .delete t cond => deleteExec_shape s t cond
  | .update t ups cond => updateExec_shape s t ups cond

/-- the membership form of the invariants implies the decode form used by `open` -/
theorem full_allInv (slack : Nat → Nat) (s : Pkg) (tabs : List Table) (h : Full slack s tabs) :
    MsiProofs.EndToEnd.AllInv slack s tabs := by
  obtain ⟨h, hv⟩ := h
  refine ⟨h.inv, h.sorted, h.metaSync, h.sep, ?_, hv⟩
  refine synced_of_rows s tabs h.rows h.sorted ?_ h.tables h.tsorted h.names h.ok h.small h.namesOk
  intro t ht
  simp only [catalogTables, List.mem_cons, List.mem_nil_iff, or_false] at ht
  rcases ht with rfl | rfl | rfl
  · exact (h.mem _).mpr (Or.inr (Or.inl rfl))
  · exact (h.mem _).mpr (Or.inl rfl)
  · exact (h.mem _).mpr (Or.inr (Or.inr hv))

/-- **a statement on a user table keeps every invariant** -/
theorem op_full (slack : Nat → Nat) (s : Pkg) (tabs : List Table) (h : Full slack s tabs)
    (op : MsiProofs.GlobalInvUpd.Op) (hu : MsiProofs.EndToEnd.UserOp op) : Full slack (op.run s) tabs := by
  obtain ⟨h, hv⟩ := h
  obtain ⟨he, ht⟩ := MsiProofs.EndToEnd.effect_of_op s h.sep op
  have hk := MsiProofs.Frame.op_kept slack s h.inv op
  obtain ⟨hi', hs'⟩ := MsiProofs.SortUpd.history_sorted slack [op] s h.inv h.sorted
  have hne : ∀ k : Cat, (k.table s.pool.longRefs).name ≠ target op := fun k e => by
    have := k.isCatalogName
    rw [← Cat.table_name s.pool.longRefs k, e, hu] at this
    cases this
  exact ⟨⟨hi', hs', MsiProofs.Synced.synced_of_effect _ _ h.metaSync he, fun t htm => h.sep t (ht ▸ htm),
    rows_transfer h.rows hk.long fun k P => reads_kept hk (h.catalog k fun _ => hv) (hne k),
    by rw [hk.tables, hk.long]; exact h.tables, h.tsorted, h.names, by rw [hk.long]; exact h.ok,
    h.small, h.namesOk, h.valid, h.notCat⟩, by rw [hk.long]; exact hv⟩


/-! ### saving -/

theorem core_transfer (slack : Nat → Nat) (s s' : Pkg) (tabs : List Table) (h : Core slack s tabs)
    (htabs : s'.tables = s.tables) (hstr : s'.pool.strings = s.pool.strings)
    (hlong : s'.pool.longRefs = s.pool.longRefs)
    (hrows : ∀ t, MsiProofs.Synced.NotMeta t.streamName → s'.loadRows t = s.loadRows t)
    (hmeta : MsiProofs.Synced.Synced s') : Core slack s' tabs := by
  have hsep' : MsiProofs.Synced.TablesSeparate s' := fun t ht => h.sep t (htabs ▸ ht)
  have hrowsT : ∀ t ∈ s.tables, s'.loadRows t = s.loadRows t := fun t ht => hrows t (h.sep t ht)
  have hcells : cellsOfTables s' s'.tables = cellsOfTables s s.tables := by
    rw [htabs]; exact cellsOfTables_congr s s' s.tables hrowsT
  have hrc : ∀ r, s'.pool.refcount r = s.pool.refcount r := fun r => by unfold Pool.refcount; rw [hstr]
  refine ⟨⟨?_, ?_, ?_, ?_, ?_, ?_⟩, ?_, hmeta, hsep', ?_, ?_, h.tsorted, h.names, ?_, h.small, h.namesOk, h.valid, h.notCat⟩
  · rw [htabs]; exact h.inv.distinct
  · intro t ht
    rw [htabs] at ht
    rw [hrowsT t ht]; exact h.inv.loads t ht
  · rw [hcells]; exact h.inv.pos
  · rw [hcells]
    intro r hr
    rw [hrc r]; exact h.inv.counts r hr
  · have := h.inv.sized
    unfold MsiProofs.RowsOk.PoolSized at *
    rw [hstr, hlong]; exact this
  · intro t ht
    rw [htabs] at ht
    rw [hlong]; exact h.inv.widths t ht
  · intro t ht rows hl
    rw [htabs] at ht
    rw [hrowsT t ht] at hl
    exact keysAscending_congr (fun r _ => rowValues_of_strings hstr r) (h.sorted t ht rows hl)
  · exact rows_transfer h.rows hlong fun k P => reads_congr (hrows _ (catalog_notMeta _ _ (Cat.mem_catalogTables _ k)))
      fun _ _ r _ => rowValues_of_strings hstr r
  · rw [htabs, hlong]; exact h.tables
  · rw [hlong]; exact h.ok

/-- **a successful save keeps every invariant** -/
theorem finish_core (slack : Nat → Nat) (s s' : Pkg) (tabs : List Table) (h : Core slack s tabs)
    (E : List Char → Bytes) (hsav : Savable s E) (hf : finish s = (s', .ok ())) :
    Core slack s' tabs ∧ Saved s' ∧ s'.pool.longRefs = s.pool.longRefs := by
  obtain ⟨hsaved, hsync, -⟩ := MsiProofs.Synced.finish_step s s' E h.metaSync h.sep hsav hf
  obtain rfl : s' = (finish s).1 := by rw [hf]
  obtain ⟨⟨hstr, hlong⟩, hframe⟩ := finish_frame s
  exact ⟨core_transfer slack s _ tabs h (MsiProofs.Synced.finish_tables s) hstr hlong
    (fun t ht => loadRows_congr s _ t (hframe _ ht)) hsync, hsaved, hlong⟩

theorem finish_noOrphans (s : Pkg) (h : NoOrphans s) : NoOrphans (finish s).1 := by
  have htabs := MsiProofs.Synced.finish_tables s
  obtain ⟨-, hframe⟩ := finish_frame s
  refine ⟨fun x hx => h.valid x (htabs ▸ hx), ?_⟩
  intro n hv hm hd
  rw [hframe _ hm] at hd
  rw [htabs]
  exact h.owned n hv hm hd

end MsiProofs.FullHistory
