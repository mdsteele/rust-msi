import MsiProofs.Lemmas.Relational
/-
The gate of `Insert::exec` (properties C07, C03, C20): in every state with the package invariant,
what an insert replies is decided by the relational view alone — the rows the table shows — and
by nothing else: it is refused exactly when a row has the wrong number of values, a value is not
valid for its column, a key is already present (`AlreadyExists`) or repeated in the batch, or the
table would exceed the row bound; otherwise it is accepted (or hits the string pool's capacity
panic, the recorded finding D16b).  No other failure exists.
-/
namespace MsiProofs.Gate
open MsiModel MsiModel.Bytes MsiModel.Pkg MsiProofs.GlobalInv MsiProofs.SortedInv MsiProofs.Frame
open MsiProofs.Refine MsiProofs.Relational MsiProofs.SaveOpen MsiProofs.Order MsiProofs.RowsOk

/-- the key checks of an insert, on values: against the rows the table shows and within the batch -/
def checkNewV (t : Table) (shown : List (List Value)) : List (List Value) → List (List Value) → Option ErrKind
  | [], _ => none
  | r :: rs, seen =>
    let k := keyV t r
    if shown.any (fun row => keyV t row == k) then some .alreadyExists
    else if seen.contains k then some .invalidInput
    else checkNewV t shown rs (k :: seen)

/-- **what an insert replies, read off the relational view** (`none` = accepted) -/
def gate (t : Table) (shown : List (List Value)) (rows : List (List Value)) : Option ErrKind :=
  if rows.any (fun r => r.length ≠ t.columns.length) then some .invalidInput else
  if rows.any (fun r => (t.columns.zip r).any fun x => !x.1.isValidValue x.2) then some .invalidInput else
  match checkNewV t shown (rows.map fun r => r.map storable) [] with
  | some k => some k
  | none => if shown.length + rows.length > Gen.maxTableRows then some .invalidInput else none

theorem key_eq_iff (a b : List Value) : (!keyLt a b && !keyLt b a) = true ↔ b = a := by
  constructor
  · intro h
    simp only [Bool.and_eq_true, Bool.not_eq_true'] at h
    exact (keyLt_connected h.1 h.2).symm
  · intro h; subst h; simp [keyLt_irrefl]

theorem loadMap_some (p : Pool) (idx : List Nat) : ∀ (rows : List (List Cell)) (m : RowMap), Sorted m →
    (∀ r ∈ rows, ∀ e ∈ m, e.1 ≠ keyOf idx (rowValues p r)) →
    (rows.map fun r => keyOf idx (rowValues p r)).Pairwise (· ≠ ·) →
    ∃ m', loadMap p idx rows m = some m' := by
  intro rows
  induction rows with
  | nil => intro m _ _ _; exact ⟨m, rfl⟩
  | cons r rs ih =>
    intro m hs hne hpw
    simp only [loadMap]
    cases hm : mapInsert (keyOf idx (rowValues p r)) r m with
    | none =>
      have := (mapInsert_none_iff hs).mp hm
      obtain ⟨e, he, hk⟩ := (C09.mapContains_iff _ m).mp this
      exact absurd hk (hne r (by simp) e he)
    | some m1 =>
      simp only
      obtain ⟨hs1, hmem⟩ := mapInsert_sorted hs hm
      simp only [List.map_cons, List.pairwise_cons] at hpw
      apply ih m1 hs1
      · intro r' hr' e he
        rcases (hmem e).mp he with rfl | he'
        · exact hpw.1 _ (List.mem_map.mpr ⟨r', hr', rfl⟩)
        · exact hne r' (by simp [hr']) e he'
      · exact hpw.2


theorem addRows_no_err (idx : List Nat) : ∀ (rows : List (List Value)) (p : Pool) (m : RowMap) (k : ErrKind),
    addRows idx p rows m ≠ .err k
  | [], _, _, _, h => nomatch h
  | r :: rs, p, m, k, h => by
    rcases Res.bind_eq_err.mp h with h1 | ⟨⟨p', cells⟩, -, h2⟩
    · exact MsiProofs.LoopSpecs.createCells_ne_err r p [] k h1
    · cases hm : mapInsert (keyOf idx r) cells m with
      | some m' => simp only [hm] at h2; exact addRows_no_err idx rs p' m' k h2
      | none => simp [hm] at h2

theorem checkNew_eq (t : Table) (p : Pool) (existing : List (List Cell)) (m : RowMap)
    (hkey : ∀ e ∈ m, e.1 = keyOf t.keyIndices (rowValues p e.2))
    (hrows : ∀ cells, cells ∈ m.map (·.2) ↔ cells ∈ existing) :
    ∀ (news seen : List (List Value)),
    checkNew t.keyIndices m news seen = checkNewV t (existing.map (rowValues p)) news seen := by
  intro news
  induction news with
  | nil => intro seen; rfl
  | cons r rs ih =>
    intro seen
    simp only [checkNew, checkNewV]
    have hc : mapContains (keyOf t.keyIndices r) m =
        (existing.map (rowValues p)).any (fun row => keyV t row == keyV t r) := by
      rw [Bool.eq_iff_iff, C09.mapContains_iff]
      simp only [List.any_eq_true, List.mem_map, beq_iff_eq]
      constructor
      · rintro ⟨e, he, hk⟩
        have h1 := (hrows e.2).mp (List.mem_map.mpr ⟨e, he, rfl⟩)
        exact ⟨rowValues p e.2, ⟨e.2, h1, rfl⟩, by unfold keyV; rw [← hkey e he, hk]⟩
      · rintro ⟨row, ⟨cells, hc, rfl⟩, hk⟩
        obtain ⟨e, he, he2⟩ := List.mem_map.mp ((hrows cells).mpr hc)
        refine ⟨e, he, ?_⟩
        rw [hkey e he, he2]; exact hk
    rw [hc]
    unfold keyV
    split
    · rfl
    · split
      · rfl
      · exact ih _

/-- **the reply of `Insert::exec` is the gate's verdict on the relational view**: an error exactly
when the gate says so, with the gate's error kind; otherwise `Ok` — or the pool-capacity panic -/
theorem insert_reply (slack : Nat → Nat) (s : Pkg) (hI : Inv slack s) (hS : SortedAll s) (tname : List Char)
    (rows : List (List Value)) (t : Table) (ht : s.findTable tname = some t) :
    match gate t (tableView s t) rows with
    | some k => (insertExec s tname rows).2 = .err k
    | none => (insertExec s tname rows).2 = .ok () ∨ ∃ w, (insertExec s tname rows).2 = .panic w := by
  have htm := MsiProofs.Synced.findTable_mem ht
  obtain ⟨existing, hl⟩ := hI.loads t htm
  obtain ⟨m, hm⟩ := loadMap_some s.pool t.keyIndices existing [] (by simp [Sorted]) (by simp)
    (keys_distinct (hS t htm existing hl))
  obtain ⟨hperm, hkey⟩ := MsiProofs.LoopSpecs.loadMap_nil hm
  have hlenm : m.length = existing.length := by simpa using hperm.length_eq
  -- what the plan comes to, by the gate's verdict: after the checks only the capacity panic is left
  have hplan : match gate t (existing.map (rowValues s.pool)) rows with
      | some k => Exec.insertPlan s rows t = .err k
      | none => (∃ x, Exec.insertPlan s rows t = .ok x) ∨ ∃ w, Exec.insertPlan s rows t = .panic w := by
    unfold gate Exec.insertPlan
    by_cases h1 : (rows.any fun r => r.length ≠ t.columns.length) = true
    · simp only [h1, if_true]
    simp only [h1, Bool.false_eq_true, if_false]
    by_cases h2 : (rows.any fun r => (t.columns.zip r).any fun x => !x.1.isValidValue x.2) = true
    · simp only [h2, if_true]
    simp only [h2, Bool.false_eq_true, if_false, hl, hm, Res.bind_ok, Res.ofOption]
    rw [checkNew_eq t s.pool existing m hkey fun cells => hperm.mem_iff]
    cases hc : checkNewV t (existing.map (rowValues s.pool)) (rows.map fun r => r.map storable) [] with
    | some k => simp only
    | none =>
      simp only [List.length_map, hlenm]
      by_cases h3 : existing.length + rows.length > Gen.maxTableRows
      · simp only [h3, if_true]
      simp only [h3, if_false]
      cases ha : addRows t.keyIndices s.pool (rows.map fun r => r.map storable) m with
      | err k => exact absurd ha (addRows_no_err t.keyIndices _ s.pool m k)
      | panic w => exact Or.inr ⟨w, rfl⟩
      | ok x => exact Or.inl ⟨_, rfl⟩
  rw [tableView_ok hl, Exec.insertExec_eq]
  cases hg : gate t (existing.map (rowValues s.pool)) rows with
  | some k => rw [hg] at hplan; exact reply_err ht hplan
  | none => rw [hg] at hplan; exact reply_ok ht (fun _ _ hp => insertPlan_store_ok hI ht hp) hplan

end MsiProofs.Gate
