import MsiProofs.Lemmas.RefineExact
import MsiProofs.Lemmas.LoopSpecs
/-
The package-level invariant behind C03/C05/C08 for whole histories: every table loads, table
streams are pairwise distinct, and the string pool's reference counts account — exactly, up to a
fixed slack — for the references held by the cells of ALL tables.  Every successful insert or
delete on any table re-establishes it; a refused one changes nothing.
-/
namespace MsiProofs.GlobalInv
open MsiModel MsiModel.Bytes MsiModel.Pkg MsiProofs.Refine MsiProofs.RefineDelete MsiProofs.RefineExact
open MsiProofs.SaveOpen MsiProofs.RowsOk

/-- the rows of a table as the state reads them (nothing if the stream does not decode) -/
def rowsOf (s : Pkg) (t : Table) : List (List Cell) :=
  match s.loadRows t with
  | .ok rows => rows
  | _ => []

def cellsOfTables (s : Pkg) (ts : List Table) : List Cell := (ts.map fun t => (rowsOf s t).flatten).flatten

theorem loadRows_congr (s s' : Pkg) (t : Table) (h : dataOf s'.cont t.streamName = dataOf s.cont t.streamName) :
    s'.loadRows t = s.loadRows t := by
  unfold dataOf at h
  unfold Pkg.loadRows
  cases h1 : Cont.find s'.cont t.streamName with
  | none =>
    cases h2 : Cont.find s.cont t.streamName with
    | none => rfl
    | some e => simp [h1, h2] at h
  | some e1 =>
    cases h2 : Cont.find s.cont t.streamName with
    | none => simp [h1, h2] at h
    | some e2 =>
      simp only [h1, h2, Option.map_some, Option.some.injEq] at h
      simp only [h]

theorem cellsOfTables_congr (s s' : Pkg) (ts : List Table)
    (h : ∀ t ∈ ts, s'.loadRows t = s.loadRows t) : cellsOfTables s' ts = cellsOfTables s ts := by
  unfold cellsOfTables
  congr 1
  apply List.map_congr_left
  intro t ht
  unfold rowsOf
  rw [h t ht]

structure Inv (slack : Nat → Nat) (s : Pkg) : Prop where
  distinct : s.tables.Pairwise fun a b => key a.streamName ≠ key b.streamName
  loads : ∀ t ∈ s.tables, ∃ rows, s.loadRows t = .ok rows
  /-- string cells refer to positions ≥ 1 -/
  pos : PosRefs (cellsOfTables s s.tables)
  /-- reference counts = references from all tables + slack -/
  counts : AccountedWith slack s.pool (cellsOfTables s s.tables)
  sized : PoolSized s.pool
  widths : ∀ t ∈ s.tables, s.pool.longRefs = t.longRefs ∧ 0 < t.rowSize

theorem cellsOfTables_split (s : Pkg) (pre post : List Table) (t : Table) :
    cellsOfTables s (pre ++ t :: post) = cellsOfTables s pre ++ (rowsOf s t).flatten ++ cellsOfTables s post := by
  unfold cellsOfTables
  simp [List.map_append, List.flatten_append]

theorem live_of_accounted (slack : Nat → Nat) (p : Pool) (cells : List Cell) (hpos : PosRefs cells)
    (h : AccountedWith slack p cells) : ∀ c ∈ cells, LiveCell p c := by
  intro c hc
  cases c with
  | null => trivial
  | int n => trivial
  | str r =>
    have hr := hpos r hc
    have := h r hr
    have hcnt : 1 ≤ cells.count (.str r) := List.count_pos_iff.mpr hc
    show 0 < p.refcount r
    omega


theorem rowsOf_ok {s : Pkg} {t : Table} {rows : List (List Cell)} (h : s.loadRows t = .ok rows) : rowsOf s t = rows := by
  unfold rowsOf; rw [h]

theorem cell_mem_tables {s : Pkg} {ts : List Table} {t : Table} {rows : List (List Cell)} {r : List Cell} {c : Cell}
    (ht : t ∈ ts) (hl : s.loadRows t = .ok rows) (hr : r ∈ rows) (hc : c ∈ r) : c ∈ cellsOfTables s ts := by
  unfold cellsOfTables
  simp only [List.mem_flatten, List.mem_map]
  exact ⟨(rowsOf s t).flatten, ⟨t, ht, rfl⟩, by rw [rowsOf_ok hl]; exact List.mem_flatten.mpr ⟨r, hr, hc⟩⟩

/-- the cells of all tables, split at table `t`: `others` holds the cells of every other table, and
still does in any state that differs only in the pool and in `t`'s stream -/
theorem split_at {slack : Nat → Nat} {s : Pkg} (hI : Inv slack s) {t : Table} (htm : t ∈ s.tables)
    {existing : List (List Cell)} (hl : s.loadRows t = .ok existing) :
    ∃ others, (cellsOfTables s s.tables).Perm (existing.flatten ++ others) ∧
      (∀ x ∈ s.tables, x ≠ t → ∀ rows, s.loadRows x = .ok rows → ∀ r ∈ rows, ∀ c ∈ r, c ∈ others) ∧
      ∀ (s' : Pkg) (stored : List (List Cell)), s'.tables = s.tables →
        (∀ n, key t.streamName ≠ key n → dataOf s'.cont n = dataOf s.cont n) → s'.loadRows t = .ok stored →
        (cellsOfTables s' s'.tables).Perm (stored.flatten ++ others) ∧
        ∀ x ∈ s.tables, x ≠ t → s'.loadRows x = s.loadRows x := by
  obtain ⟨pre, post, hsplit⟩ := List.append_of_mem htm
  have hdist := hI.distinct
  rw [hsplit] at hdist
  have hpre : ∀ x ∈ pre, key t.streamName ≠ key x.streamName :=
    fun x hx e => (List.pairwise_append.mp hdist).2.2 x hx t List.mem_cons_self e.symm
  have hpost : ∀ x ∈ post, key t.streamName ≠ key x.streamName :=
    (List.pairwise_cons.mp (List.pairwise_append.mp hdist).2.1).1
  have hwhere : ∀ x ∈ s.tables, x ≠ t → x ∈ pre ∨ x ∈ post := by
    intro x hx hne
    rw [hsplit] at hx
    rcases List.mem_append.mp hx with h1 | h1
    · exact Or.inl h1
    · exact Or.inr ((List.mem_cons.mp h1).resolve_left hne)
  refine ⟨cellsOfTables s pre ++ cellsOfTables s post, ?_, ?_, ?_⟩
  · rw [hsplit, cellsOfTables_split, rowsOf_ok hl, List.append_assoc]
    exact List.perm_append_comm_assoc _ _ _
  · intro x hx hne rows hlx r hr c hc
    rcases hwhere x hx hne with h1 | h1
    · exact List.mem_append_left _ (cell_mem_tables h1 hlx hr hc)
    · exact List.mem_append_right _ (cell_mem_tables h1 hlx hr hc)
  · intro s' stored htabs hframe hst
    have hsame_pre : ∀ x ∈ pre, s'.loadRows x = s.loadRows x :=
      fun x hx => loadRows_congr s s' x (hframe _ (hpre x hx))
    have hsame_post : ∀ x ∈ post, s'.loadRows x = s.loadRows x :=
      fun x hx => loadRows_congr s s' x (hframe _ (hpost x hx))
    refine ⟨?_, fun x hx hne => (hwhere x hx hne).elim (hsame_pre x) (hsame_post x)⟩
    rw [htabs, hsplit, cellsOfTables_split, rowsOf_ok hst, cellsOfTables_congr s s' pre hsame_pre,
      cellsOfTables_congr s s' post hsame_post, List.append_assoc]
    exact List.perm_append_comm_assoc _ _ _

theorem cells_split {slack : Nat → Nat} {s : Pkg} (hI : Inv slack s) {t : Table} (htm : t ∈ s.tables)
    {existing : List (List Cell)} (hl : s.loadRows t = .ok existing) :
    ∃ others, PosRefs (existing.flatten ++ others) ∧ AccountedWith slack s.pool (existing.flatten ++ others) :=
  let ⟨others, hperm, _⟩ := split_at hI htm hl
  ⟨others, fun r hr => hI.pos r (hperm.mem_iff.mpr hr), accountedWith_perm hperm hI.counts⟩

/-- what a successful statement on table `t` leaves behind, `others` being cells outside `t` whose
references were counted along: the same tables, only `t`'s stream rewritten, `t` readable, the
counts still right with the same slack, the other cells' values untouched, the pool within bounds -/
structure StepOn (slack : Nat → Nat) (s s' : Pkg) (t : Table) (others : List Cell) : Prop where
  tables : s'.tables = s.tables
  frame : ∀ n, key t.streamName ≠ key n → dataOf s'.cont n = dataOf s.cont n
  loaded : ∃ stored, s'.loadRows t = .ok stored
  counts : AccountedWith slack s'.pool ((rowsOf s' t).flatten ++ others)
  pos : PosRefs (rowsOf s' t).flatten
  vals : ∀ d ∈ others, Cell.toValue s'.pool d = Cell.toValue s.pool d
  sized : PoolSized s'.pool
  long : s'.pool.longRefs = s.pool.longRefs

theorem put_frame {s s' : Pkg} {pool' : Pool} {t : Table} {bs : Bytes}
    (hs' : s' = { s with pool := pool', cont := Cont.put s.cont t.streamName bs }) :
    s'.tables = s.tables ∧ ∀ n, key t.streamName ≠ key n → dataOf s'.cont n = dataOf s.cont n := by
  subst hs'
  exact ⟨rfl, fun n hn => dataOf_put_other _ _ _ _ hn⟩

section step
variable {slack : Nat → Nat} {s s' : Pkg} {t : Table} {existing : List (List Cell)}
  (hI : Inv slack s) (htm : t ∈ s.tables) (hl : s.loadRows t = .ok existing)
  (hstep : ∀ others, PosRefs (existing.flatten ++ others) →
    AccountedWith slack s.pool (existing.flatten ++ others) → StepOn slack s s' t others)
include hI htm hl hstep

/-- **such a step re-establishes the invariant** (same slack) -/
theorem step_inv : Inv slack s' := by
  obtain ⟨others, hperm, -, hafter⟩ := split_at hI htm hl
  have hposAll : PosRefs (existing.flatten ++ others) := fun r hr => hI.pos r (hperm.mem_iff.mpr hr)
  have st := hstep others hposAll (accountedWith_perm hperm hI.counts)
  obtain ⟨stored, hst⟩ := st.loaded
  obtain ⟨hperm', hsame⟩ := hafter s' stored st.tables st.frame hst
  have hcounts := st.counts
  have hpos := st.pos
  rw [rowsOf_ok hst] at hcounts hpos
  refine ⟨by rw [st.tables]; exact hI.distinct, ?_, ?_, accountedWith_perm hperm'.symm hcounts, st.sized, ?_⟩
  · intro x hx
    rw [st.tables] at hx
    by_cases hxt : x = t
    · exact ⟨stored, hxt ▸ hst⟩
    · rw [hsame x hx hxt]; exact hI.loads x hx
  · intro r hr
    rcases List.mem_append.mp (hperm'.mem_iff.mp hr) with h1 | h1
    · exact hpos r h1
    · exact hposAll r (List.mem_append_right _ h1)
  · intro x hx
    rw [st.tables] at hx
    rw [st.long]; exact hI.widths x hx

theorem step_others : s'.tables = s.tables ∧ s'.pool.longRefs = s.pool.longRefs ∧
    ∀ x ∈ s.tables, x ≠ t → s'.loadRows x = s.loadRows x ∧
      ∀ rows, s.loadRows x = .ok rows → ∀ r ∈ rows, rowValues s'.pool r = rowValues s.pool r := by
  obtain ⟨others, hperm, hmem, hafter⟩ := split_at hI htm hl
  have st := hstep others (fun r hr => hI.pos r (hperm.mem_iff.mpr hr)) (accountedWith_perm hperm hI.counts)
  obtain ⟨stored, hst⟩ := st.loaded
  refine ⟨st.tables, st.long, fun x hx hne => ⟨(hafter s' stored st.tables st.frame hst).2 x hx hne, ?_⟩⟩
  intro rows hlx r hr
  exact List.map_congr_left fun c hc => st.vals c (hmem x hx hne rows hlx r hr c hc)

end step

theorem insert_step {slack : Nat → Nat} {s : Pkg} {tname : List Char} {rows : List (List Value)} {s' : Pkg}
    (h : insertExec s tname rows = (s', .ok ())) {t : Table} (ht : s.findTable tname = some t)
    {existing : List (List Cell)} (hl : s.loadRows t = .ok existing)
    (hs : PoolSized s.pool) (hlr : s.pool.longRefs = t.longRefs) (hrs : 0 < t.rowSize)
    (others : List Cell) (hpos : PosRefs (existing.flatten ++ others))
    (hacc : AccountedWith slack s.pool (existing.flatten ++ others)) : StepOn slack s s' t others := by
  have hliveAll := live_of_accounted slack s.pool _ hpos hacc
  have hlive : ∀ r ∈ existing, ∀ c ∈ r, LiveCell s.pool c :=
    fun r hr c hc => hliveAll c (List.mem_append_left _ (List.mem_flatten.mpr ⟨r, hr, hc⟩))
  obtain ⟨stored, hstored, hacc', hpos'⟩ := insert_accountedW slack s tname rows s' h t ht existing hl others
    (fun r hr => hpos r (List.mem_append_left _ hr)) hacc hlive hs hlr hrs
  obtain ⟨-, -, -, -, -, hext, -, hsized', hlr', -⟩ :=
    MsiProofs.RefineLoad.insert_then_load s tname rows s' h t ht existing hl hlive hs hlr hrs
  obtain ⟨_, _, _, _, -, -, -, -, -, -, hs'⟩ := insertExec_ok_inv h ht hl
  obtain ⟨htabs, hframe⟩ := put_frame hs'
  exact ⟨htabs, hframe, ⟨stored, hstored⟩, by rw [rowsOf_ok hstored]; exact hacc',
    by rw [rowsOf_ok hstored]; exact hpos',
    fun d hd => (toValue_ext hext d (hliveAll d (List.mem_append_right _ hd))).1, hsized', hlr'.trans hlr.symm⟩

theorem sameSize : MsiProofs.Loops.PoolRel (fun _ => False)
    fun p p' => p'.strings.length = p.strings.length ∧ p'.longRefs = p.longRefs where
  refl _ := ⟨rfl, rfl⟩
  trans h1 h2 := ⟨h2.1.trans h1.1, h2.2.trans h1.2⟩
  incref _ _ _ _ hA _ := hA.elim
  decref p r := ⟨MsiProofs.PoolOps.decref_length p r, by unfold Pool.decref; split <;> rfl⟩

theorem delete_step {slack : Nat → Nat} {s : Pkg} {tname : List Char} {cond : Option Ast} {s' : Pkg}
    (h : deleteExec s tname cond = (s', .ok ())) {t : Table} (ht : s.findTable tname = some t)
    {existing : List (List Cell)} (hl : s.loadRows t = .ok existing) (hs : PoolSized s.pool) (hrs : 0 < t.rowSize)
    (others : List Cell) (hpos : PosRefs (existing.flatten ++ others))
    (hacc : AccountedWith slack s.pool (existing.flatten ++ others)) : StepOn slack s s' t others := by
  obtain ⟨hstored, hacc'⟩ := delete_accountedW slack s tname cond s' h t ht existing hl others hpos hacc hrs
  obtain ⟨-, hv, -⟩ := MsiProofs.RefineLoad.delete_then_load s tname cond s' h t ht existing hl others hpos
    (hacc.accounted hpos) hrs
  obtain ⟨pool', kept, bs, hd, -, hs'⟩ := deleteExec_ok_inv h ht hl
  obtain ⟨htabs, hframe⟩ := put_frame hs'
  obtain ⟨hlen, hlong⟩ := MsiProofs.Loops.deleteGo_rel sameSize t cond existing hd
  have hp' : s'.pool = pool' := by rw [hs']
  refine ⟨htabs, hframe, ⟨_, hstored⟩, by rw [rowsOf_ok hstored]; exact hacc', ?_,
    fun d hd => hv d (List.mem_append_right _ hd), ?_, by rw [hp']; exact hlong⟩
  · rw [rowsOf_ok hstored]
    intro q hc
    obtain ⟨r, hr, hcr⟩ := List.mem_flatten.mp hc
    exact hpos q (List.mem_append_left _ (List.mem_flatten.mpr ⟨r, (List.mem_filter.mp hr).1, hcr⟩))
  · unfold PoolSized at hs ⊢
    rw [hp', hlen, hlong]; exact hs

theorem Inv.found {slack : Nat → Nat} {s : Pkg} {tn : List Char} {plan : Table → Res (Pool × List (List Cell))}
    {s' : Pkg} (hI : Inv slack s) (h : Exec.onTable s tn plan = (s', .ok ())) :
    ∃ t existing, s.findTable tn = some t ∧ t ∈ s.tables ∧ s.loadRows t = .ok existing ∧
      s.pool.longRefs = t.longRefs ∧ 0 < t.rowSize := by
  obtain ⟨t, hf⟩ := onTable_table h
  have htm := MsiProofs.Synced.findTable_mem hf
  obtain ⟨existing, hl⟩ := hI.loads t htm
  exact ⟨t, existing, hf, htm, hl, hI.widths t htm⟩

/-- **a successful insert re-establishes the invariant** (same slack) -/
theorem insert_inv (slack : Nat → Nat) (s : Pkg) (tname : List Char) (rows : List (List Value)) (s' : Pkg)
    (hI : Inv slack s) (h : insertExec s tname rows = (s', .ok ())) : Inv slack s' := by
  obtain ⟨t, existing, hf, htm, hl, hlr, hrs⟩ := hI.found (Exec.insertExec_eq s tname rows ▸ h)
  exact step_inv hI htm hl (insert_step h hf hl hI.sized hlr hrs)

/-- **a successful delete re-establishes the invariant** (same slack) -/
theorem delete_inv (slack : Nat → Nat) (s : Pkg) (tname : List Char) (cond : Option Ast) (s' : Pkg)
    (hI : Inv slack s) (h : deleteExec s tname cond = (s', .ok ())) : Inv slack s' := by
  obtain ⟨t, existing, hf, htm, hl, hlr, hrs⟩ := hI.found (Exec.deleteExec_eq s tname cond ▸ h)
  exact step_inv hI htm hl (delete_step h hf hl hI.sized hrs)


/-! ### refused requests change nothing -/

theorem storeRows_ok_of_rowOk (s : Pkg) (t : Table) (rows : List (List Cell))
    (h : ∀ r ∈ rows, RowOk t.longRefs t.columns r) (hpos : 0 < t.rowSize) (hmax : rows.length ≤ Gen.maxTableRows) :
    (storeRows s t rows).2 = .ok () := by
  obtain ⟨bs, hw, -⟩ := write_read t rows h hpos hmax
  unfold storeRows
  rw [hw]

theorem onTable_refused_noop {s : Pkg} {tn : List Char} {plan : Table → Res (Pool × List (List Cell))}
    (hok : ∀ t pool' out, s.findTable tn = some t → plan t = .ok (pool', out) →
      (storeRows { s with pool := pool' } t out).2 = .ok ())
    (hne : (Exec.onTable s tn plan).2 ≠ .ok ()) : (Exec.onTable s tn plan).1 = s := by
  unfold Exec.onTable at hne ⊢
  cases hf : s.findTable tn with
  | none => rfl
  | some t =>
    simp only [hf] at hne ⊢
    cases hp : plan t with
    | ok x => rw [hp] at hne; exact absurd (hok t x.1 x.2 hf hp) hne
    | err k => rfl
    | panic w => rfl

theorem reply_err {s : Pkg} {tn : List Char} {t : Table} {plan : Table → Res (Pool × List (List Cell))}
    (ht : s.findTable tn = some t) {k : ErrKind} (hp : plan t = .err k) : (Exec.onTable s tn plan).2 = .err k := by
  unfold Exec.onTable
  simp only [ht]
  rw [hp]; rfl

theorem reply_ok {s : Pkg} {tn : List Char} {t : Table} {plan : Table → Res (Pool × List (List Cell))}
    (ht : s.findTable tn = some t)
    (hok : ∀ pool' out, plan t = .ok (pool', out) → (storeRows { s with pool := pool' } t out).2 = .ok ())
    (hp : (∃ x, plan t = .ok x) ∨ ∃ w, plan t = .panic w) :
    (Exec.onTable s tn plan).2 = .ok () ∨ ∃ w, (Exec.onTable s tn plan).2 = .panic w := by
  unfold Exec.onTable
  simp only [ht]
  rcases hp with ⟨⟨pool', out⟩, hp⟩ | ⟨w, hp⟩
  · rw [hp]; exact Or.inl (hok pool' out hp)
  · rw [hp]; exact Or.inr ⟨w, rfl⟩

theorem insertPlan_store_ok {slack : Nat → Nat} {s : Pkg} (hI : Inv slack s) {tname : List Char} {t : Table}
    (hf : s.findTable tname = some t) {rows : List (List Value)} {pool' : Pool} {out : List (List Cell)}
    (hp : Exec.insertPlan s rows t = .ok (pool', out)) : (storeRows { s with pool := pool' } t out).2 = .ok () := by
  obtain ⟨existing, m, m', hlen, hval, hl, hm, -, hmax, ha, rfl⟩ := Exec.insertPlan_ok.mp hp
  obtain ⟨hlr, hrs⟩ := hI.widths t (MsiProofs.Synced.findTable_mem hf)
  have hmok : ∀ e ∈ m, RowOk t.longRefs t.columns e.2 := by
    intro e he
    exact MsiProofs.RefineLoad.loadRows_rowOk s t existing hl e.2
      ((MsiProofs.LoopSpecs.loadMap_nil hm).1.mem_iff.mp (List.mem_map.mpr ⟨e, he, rfl⟩))
  obtain ⟨hok', hlen'⟩ := MsiProofs.RefineLoad.addRows_rowOk t rows hlen hval hI.sized hlr hmok ha
  refine storeRows_ok_of_rowOk _ t _ (fun r hr => ?_) hrs (by rw [List.length_map, hlen']; exact hmax)
  obtain ⟨e, he, rfl⟩ := List.mem_map.mp hr
  exact hok' e he

theorem deletePlan_store_ok {slack : Nat → Nat} {s : Pkg} (hI : Inv slack s) {tname : List Char} {t : Table}
    (hf : s.findTable tname = some t) {cond : Option Ast} {pool' : Pool} {out : List (List Cell)}
    (hp : Exec.deletePlan s cond t = .ok (pool', out)) : (storeRows { s with pool := pool' } t out).2 = .ok () := by
  obtain ⟨existing, -, hl, hd⟩ := Exec.deletePlan_ok.mp hp
  obtain ⟨l, hsub, rfl⟩ := MsiProofs.LoopSpecs.deleteGo_sublist hd
  refine storeRows_ok_of_rowOk _ t _
    (fun r hr => MsiProofs.RefineLoad.loadRows_rowOk s t existing hl r (hsub.subset (by simpa using hr)))
    (hI.widths t (MsiProofs.Synced.findTable_mem hf)).2 ?_
  exact Nat.le_trans hsub.length_le (MsiProofs.RefineLoad.loadRows_length s t existing hl)

/-- **an insert that does not succeed leaves the state as it was** (under the invariant there is no
late failure: the rows to be written always fit their columns) -/
theorem insert_refused_noop (slack : Nat → Nat) (s : Pkg) (tname : List Char) (rows : List (List Value))
    (hI : Inv slack s) (hne : (insertExec s tname rows).2 ≠ .ok ()) : (insertExec s tname rows).1 = s := by
  rw [Exec.insertExec_eq] at hne ⊢
  exact onTable_refused_noop (fun _ _ _ hf hp => insertPlan_store_ok hI hf hp) hne

/-- **a delete that does not succeed leaves the state as it was** -/
theorem delete_refused_noop (slack : Nat → Nat) (s : Pkg) (tname : List Char) (cond : Option Ast)
    (hI : Inv slack s) (hne : (deleteExec s tname cond).2 ≠ .ok ()) : (deleteExec s tname cond).1 = s := by
  rw [Exec.deleteExec_eq] at hne ⊢
  exact onTable_refused_noop (fun _ _ _ hf hp => deletePlan_store_ok hI hf hp) hne

theorem foldl_keeps {σ α} {P : σ → Prop} {f : σ → α → σ} (h : ∀ s a, P s → P (f s a)) :
    ∀ (l : List α) (s : σ), P s → P (l.foldl f s)
  | [], _, hs => hs
  | a :: l, s, hs => foldl_keeps h l _ (h s a hs)

/-- an insert or a delete, as the API runs it -/
inductive Op
  | insert (t : List Char) (rows : List (List Value))
  | delete (t : List Char) (cond : Option Ast)

def Op.run (s : Pkg) : Op → Pkg
  | .insert t rows => (insertExec s t rows).1
  | .delete t cond => (deleteExec s t cond).1

theorem step_cases {r : Pkg × Res Unit} {s : Pkg} (hno : r.2 ≠ .ok () → r.1 = s) {P : Pkg → Prop} (h0 : P s)
    (hok : ∀ s', r = (s', .ok ()) → P s') : P r.1 := by
  by_cases hr : r.2 = .ok ()
  · exact hok r.1 (by rw [← hr])
  · rw [hno hr]; exact h0

/-- **one request**: accepted or refused, it keeps the invariant -/
theorem op_inv (slack : Nat → Nat) (s : Pkg) (op : Op) (hI : Inv slack s) : Inv slack (op.run s) := by
  cases op with
  | insert t rows =>
    exact step_cases (insert_refused_noop slack s t rows hI) hI fun s' h => insert_inv slack s t rows s' hI h
  | delete t cond =>
    exact step_cases (delete_refused_noop slack s t cond hI) hI fun s' h => delete_inv slack s t cond s' hI h

/-- **every history of inserts and deletes, on any tables, accepted or refused, keeps the
invariant**: every table still loads, the streams stay distinct, and the reference counts still
equal the references held by the cells of all tables plus the same slack -/
theorem history_inv (slack : Nat → Nat) (ops : List Op) : ∀ (s : Pkg), Inv slack s → Inv slack (ops.foldl Op.run s) :=
  foldl_keeps (fun s op h => op_inv slack s op h) ops

end MsiProofs.GlobalInv
