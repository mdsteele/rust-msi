import MsiProofs.Lemmas.RefineUpdate
import MsiProofs.Lemmas.SortedInv
/-
The package invariant through `Update::exec`, and histories over all three statements.
-/
namespace MsiProofs.GlobalInvUpd
open MsiModel MsiModel.Bytes MsiModel.Pkg MsiProofs.Refine MsiProofs.RefineDelete MsiProofs.RefineExact
open MsiProofs.SaveOpen MsiProofs.RowsOk MsiProofs.GlobalInv MsiProofs.RefineUpdate

theorem update_step {slack : Nat → Nat} {s : Pkg} {tname : List Char} {updates : List (List Char × Value)}
    {cond : Option Ast} {s' : Pkg} (h : updateExec s tname updates cond = (s', .ok ()))
    {t : Table} (ht : s.findTable tname = some t) {existing : List (List Cell)} (hl : s.loadRows t = .ok existing)
    (hs : PoolSized s.pool) (hlr : s.pool.longRefs = t.longRefs) (hrs : 0 < t.rowSize)
    (others : List Cell) (hpos : PosRefs (existing.flatten ++ others))
    (hacc : AccountedWith slack s.pool (existing.flatten ++ others)) : StepOn slack s s' t others := by
  obtain ⟨planned, rows', final, -, hstored, -, -, hacc', hpos', hv, hframe, htabs, hsz, hlr'⟩ :=
    update_then_load slack s tname updates cond s' h t ht existing hl others hpos hacc hs hlr hrs
  exact ⟨htabs, hframe, ⟨final, hstored⟩, by rw [rowsOf_ok hstored]; exact hacc',
    by rw [rowsOf_ok hstored]; exact fun r hr => hpos' r (List.mem_append_left _ hr), hv, hsz, hlr'⟩

/-- **a successful update re-establishes the invariant** (same slack) -/
theorem update_inv (slack : Nat → Nat) (s : Pkg) (tname : List Char) (updates : List (List Char × Value))
    (cond : Option Ast) (s' : Pkg) (hI : Inv slack s) (h : updateExec s tname updates cond = (s', .ok ())) :
    Inv slack s' := by
  obtain ⟨t, existing, hf, htm, hl, hlr, hrs⟩ := hI.found (Exec.updateExec_eq s tname updates cond ▸ h)
  exact step_inv hI htm hl (update_step h hf hl hI.sized hlr hrs)

theorem updatePlan_store_ok {slack : Nat → Nat} {s : Pkg} (hI : Inv slack s) {tname : List Char} {t : Table}
    (hf : s.findTable tname = some t) {updates : List (List Char × Value)} {cond : Option Ast} {pool' : Pool}
    {out : List (List Cell)} (hp : Exec.updatePlan s updates cond t = .ok (pool', out)) :
    (storeRows { s with pool := pool' } t out).2 = .ok () := by
  obtain ⟨rows, planned, rows', hv, -, hl, -, -, hu, rfl⟩ := Exec.updatePlan_ok.mp hp
  obtain ⟨hlr, hrs⟩ := hI.widths t (MsiProofs.Synced.findTable_mem hf)
  have hr1 := updApply_rowOk t.columns _ (upsOf_ok t updates hv).1 rows hI.sized
    (by rw [hlr]; exact MsiProofs.RefineLoad.loadRows_rowOk s t rows hl) (fun _ hx => by simp at hx) hu
  rw [hlr] at hr1
  have hlen' : rows'.length = rows.length := by simpa using MsiProofs.LoopSpecs.updApply_length hu
  have hfperm := map_getD_perm rows' (Exec.writeOrder t (Exec.upsOf t updates) planned rows.length)
    (by rw [hlen']; exact writeOrder_perm t _ planned _)
  exact storeRows_ok_of_rowOk _ t _ (fun r hr => hr1 r (hfperm.mem_iff.mp hr)) hrs
    (by rw [hfperm.length_eq, hlen']; exact MsiProofs.RefineLoad.loadRows_length s t rows hl)

/-- **an update that does not succeed leaves the state as it was** -/
theorem update_refused_noop (slack : Nat → Nat) (s : Pkg) (tname : List Char) (updates : List (List Char × Value))
    (cond : Option Ast) (hI : Inv slack s) (hne : (updateExec s tname updates cond).2 ≠ .ok ()) :
    (updateExec s tname updates cond).1 = s := by
  rw [Exec.updateExec_eq] at hne ⊢
  exact onTable_refused_noop (fun _ _ _ hf hp => updatePlan_store_ok hI hf hp) hne

/-- a data-manipulation statement -/
inductive Op
  | insert (t : List Char) (rows : List (List Value))
  | delete (t : List Char) (cond : Option Ast)
  | update (t : List Char) (updates : List (List Char × Value)) (cond : Option Ast)

def Op.run (s : Pkg) : Op → Pkg
  | .insert t rows => (insertExec s t rows).1
  | .delete t cond => (deleteExec s t cond).1
  | .update t ups cond => (updateExec s t ups cond).1

/-- **one statement**: accepted or refused, it keeps the package invariant -/
theorem op_inv (slack : Nat → Nat) (s : Pkg) (op : Op) (hI : Inv slack s) : Inv slack (op.run s) := by
  cases op with
  | insert t rows => exact GlobalInv.op_inv slack s (.insert t rows) hI
  | delete t cond => exact GlobalInv.op_inv slack s (.delete t cond) hI
  | update t ups cond =>
    exact step_cases (update_refused_noop slack s t ups cond hI) hI fun s' h => update_inv slack s t ups cond s' hI h

/-- **every history of inserts, updates and deletes, on any tables, accepted or refused, keeps the
package invariant**: all tables load, streams stay distinct, reference counts stay equal to the
references held by all cells plus the same slack -/
theorem history_inv (slack : Nat → Nat) (ops : List Op) : ∀ (s : Pkg), Inv slack s → Inv slack (ops.foldl Op.run s) :=
  foldl_keeps (fun s op h => op_inv slack s op h) ops

end MsiProofs.GlobalInvUpd
