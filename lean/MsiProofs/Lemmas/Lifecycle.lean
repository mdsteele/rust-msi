import MsiProofs.Lemmas.Created
import MsiProofs.Lemmas.DropTable
import MsiProofs.Lemmas.OtherCalls
/-
The life of a package made with the library: `create`, then any sequence of statements on user
tables, `create_table` and `drop_table` calls, stream writes and removals, signature removal, summary
and code-page setters, saves and close-and-reopen; every invariant holds throughout, and after a save
the package reopens as it was.
-/
namespace MsiProofs.Lifecycle
open MsiModel MsiModel.Bytes MsiModel.Pkg MsiProofs.CatalogOpen MsiProofs.CatalogCodec MsiProofs.CatalogSync
open MsiProofs.GlobalInv MsiProofs.SortedInv MsiProofs.CatalogRows MsiProofs.Frame MsiProofs.Refine
open MsiProofs.SaveOpen MsiProofs.CreateTable MsiProofs.FullHistory MsiProofs.Created

/-- one call of the package API -/
inductive Step
  | dml (op : MsiProofs.GlobalInvUpd.Op)
  | create (name : List Char) (cols : List Column)
  | drop (name : List Char)
  | writeStream (n : List Char) (data : Bytes)
  | removeStream (n : List Char)
  | removeSignature
  | setSummary (f : PropSet → PropSet)        -- any `summary_info_mut()` setter or clearer
  | setCodepage (cp : Nat)                    -- `set_database_codepage`
  | save
  | reopen                                    -- close the package, open the container again

/-- the state after the call (whatever it returned) -/
def Step.run (s : Pkg) : Step → Pkg
  | .dml op => op.run { s with finisher := true }
  | .create n c => (createTable s n c).1
  | .drop n => (dropTable s n).1
  | .writeStream n d => (Pkg.writeStream s n d).1
  | .removeStream n => (Pkg.removeStream s n).1
  | .removeSignature => removeDigitalSignature s
  | .setSummary f => { s with finisher := true, summaryModified := true, summary := f s.summary }
  | .setCodepage cp => { s with finisher := true, pool := { s.pool with codepage := cp, modified := true } }
  | .save => (flush s).1
  | .reopen => match open_ (some s.ptype) s.cont with | .ok s2 => s2 | _ => s

/-- `drop_table` refuses the call before doing anything -/
def dropRefused (s : Pkg) (n : List Char) : Prop :=
  Catalog.isReserved n = true ∨ Table.isValidName n = false ∨ s.findTable n = none

/-- the calls the theorem covers: stream writes and removals, signature removal, summary setters and
the database code page (always); statements on user tables (accepted or refused); `create_table`
and `drop_table` calls that are refused by the up-front checks or succeed; saves that succeed, of states that
can be written (`Savable`: text the code page can encode, a well-formed summary); closing and
reopening when nothing is pending (`Saved`: the metadata streams decode to the in-memory state, as
after a successful save) -/
def Step.Admissible (s : Pkg) : Step → Prop
  | .dml op => MsiProofs.EndToEnd.UserOp op
  | .create n c => createError s n c ≠ none ∨ (createTable s n c).2 = .ok ()
  | .drop n => dropRefused s n ∨ (dropTable s n).2 = .ok ()
  | .writeStream _ _ => True
  | .removeStream _ => True
  | .removeSignature => True
  | .setSummary _ => True
  | .setCodepage _ => True
  | .save => (flush s).2 = .ok () ∧ ∃ E, Savable s E
  | .reopen => Saved s

def Admissible : Pkg → List Step → Prop
  | _, [] => True
  | s, st :: rest => st.Admissible s ∧ Admissible (st.run s) rest

theorem core_setFinisher (slack : Nat → Nat) (s : Pkg) (tabs : List Table) (b : Bool) (h : Core slack s tabs) :
    Core slack { s with finisher := b } tabs :=
  core_transfer slack s _ tabs h rfl rfl rfl (fun _ _ => rfl) ⟨h.metaSync.summary, h.metaSync.pool⟩

theorem fresh_of_noOrphans (s : Pkg) (hN : NoOrphans s) (n : List Char) (c : List Column)
    (hce : createError s n c = none) : dataOf s.cont (StreamName.encode n true) = none := by
  have hf := createError_facts s n c hce
  have hvn := hf.validName
  simp only [Table.isValidName, Bool.and_eq_true] at hvn
  cases hd : dataOf s.cont (StreamName.encode n true) with
  | none => rfl
  | some d =>
    obtain ⟨t, ht, hnm⟩ := hN.owned n hvn.2 (MsiProofs.Synced.table_stream_notMeta n hf.validName hf.notPool)
      (by rw [hd]; exact fun e => by cases e)
    exact absurd hnm (findTable_none_ne s n hf.fresh t ht)

theorem flush_core (slack : Nat → Nat) (s : Pkg) (tabs : List Table) (hC : Core slack s tabs)
    (hfin : s.finisher = true) (E : List Char → Bytes) (hsav : Savable s E) (hok : (flush s).2 = .ok ()) :
    Core slack (flush s).1 tabs ∧ Saved (flush s).1 ∧ (flush s).1.pool.longRefs = s.pool.longRefs := by
  rw [MsiProofs.Exec.flush_eq, if_pos hfin] at hok ⊢
  exact finish_core slack { s with finisher := false } _ tabs (core_setFinisher slack s tabs false hC) E
    ⟨hsav.summary, hsav.fmtid, hsav.pool⟩
    (by rw [← hok])

/-- **one call keeps every invariant** -/
theorem step_full (slack : Nat → Nat) (s : Pkg) (tabs : List Table) (hF : Full slack s tabs) (hN : NoOrphans s)
    (st : Step) (ha : st.Admissible s) : ∃ tabs', Full slack (st.run s) tabs' ∧ NoOrphans (st.run s) := by
  cases st with
  | dml op =>
    have hF' : Full slack { s with finisher := true } tabs := ⟨core_setFinisher slack s tabs true hF.core, hF.hasVal⟩
    exact ⟨tabs, op_full slack _ tabs hF' op ha,
      noOrphans_shape _ _ _ (op_shape _ op) (noOrphans_finisher s hN)⟩
  | create n c =>
    have hN' := noOrphans_createTable s hN n c
    show ∃ tabs', Full slack (createTable s n c).1 tabs' ∧ NoOrphans (createTable s n c).1
    cases hce : createError s n c with
    | some k => rw [MsiProofs.Exec.createTable_of_error hce]; exact ⟨tabs, hF, hN⟩
    | none =>
      rcases ha with ha | ha
      · exact absurd hce ha
      · exact ⟨_, createTable_full slack s tabs hF n c _ (by rw [← ha]) (fresh_of_noOrphans s hN n c hce), hN'⟩
  | drop n =>
    show ∃ tabs', Full slack (dropTable s n).1 tabs' ∧ NoOrphans (dropTable s n).1
    rcases ha with ha | ha
    · rw [MsiProofs.Exec.dropTable_refused ha]; exact ⟨tabs, hF, hN⟩
    · have hrun : dropTable s n = ((dropTable s n).1, .ok ()) := by rw [← ha]
      exact ⟨_, MsiProofs.DropTable.dropTable_full slack s tabs hF hN n _ hrun⟩
  | writeStream n d => exact ⟨tabs, MsiProofs.OtherCalls.writeStream_full slack s tabs hF hN n d⟩
  | removeStream n => exact ⟨tabs, MsiProofs.OtherCalls.removeStream_full slack s tabs hF hN n⟩
  | removeSignature => exact ⟨tabs, MsiProofs.OtherCalls.removeSignature_full slack s tabs hF hN⟩
  | setSummary f => exact ⟨tabs, MsiProofs.OtherCalls.setSummary_full slack s tabs hF hN f⟩
  | setCodepage cp => exact ⟨tabs, MsiProofs.OtherCalls.setCodepage_full slack s tabs hF hN cp⟩
  | save =>
    obtain ⟨hok, E, hsav⟩ := ha
    show ∃ tabs', Full slack (flush s).1 tabs' ∧ NoOrphans (flush s).1
    cases hfin : s.finisher with
    | false => rw [MsiProofs.Exec.flush_eq, hfin]; exact ⟨tabs, hF, hN⟩
    | true =>
      obtain ⟨hc1, -, hl⟩ := flush_core slack s tabs hF.core hfin E hsav hok
      refine ⟨tabs, ⟨hc1, hl ▸ hF.hasVal⟩, ?_⟩
      rw [MsiProofs.Exec.flush_eq, if_pos hfin]
      exact finish_noOrphans _ (noOrphans_finisher s hN)
  | reopen =>
    have hA := full_allInv slack s tabs hF
    obtain ⟨s2, ho, hc, hs, hp, ht⟩ := reopen_same_tables s tabs ha hA.cat
    show ∃ tabs', Full slack (match open_ (some s.ptype) s.cont with | .ok s2 => s2 | _ => s) tabs' ∧
      NoOrphans (match open_ (some s.ptype) s.cont with | .ok s2 => s2 | _ => s)
    rw [ho]
    simp only
    have hsaved2 : Saved s2 := ⟨by rw [hc, hs]; exact ha.summary, by rw [hc, hp]; exact ha.pool⟩
    exact ⟨tabs, MsiProofs.OtherCalls.full_transfer slack s s2 tabs hF hN ht (by rw [hp]) (by rw [hp])
      (fun _ => by rw [hc]) (MsiProofs.Synced.synced_of_saved s2 hsaved2)⟩

theorem saved_after_save (slack : Nat → Nat) (s : Pkg) (tabs : List Table) (hF : Full slack s tabs)
    (ha : Step.save.Admissible s) (hfin : s.finisher = true) : Step.reopen.Admissible (Step.save.run s) := by
  obtain ⟨hok, E, hsav⟩ := ha
  exact (flush_core slack s tabs hF.core hfin E hsav hok).2.1

def runAll (s : Pkg) (steps : List Step) : Pkg := steps.foldl Step.run s

/-- **every reachable state satisfies every invariant** -/
theorem history_full (slack : Nat → Nat) (steps : List Step) : ∀ (s : Pkg) (tabs : List Table),
    Full slack s tabs → NoOrphans s → Admissible s steps →
    ∃ tabs', Full slack (runAll s steps) tabs' ∧ NoOrphans (runAll s steps) := by
  induction steps with
  | nil => intro s tabs hF hN _; exact ⟨tabs, hF, hN⟩
  | cons st rest ih =>
    intro s tabs hF hN ha
    obtain ⟨tabs', hF', hN'⟩ := step_full slack s tabs hF hN st ha.1
    exact ih _ tabs' hF' hN' ha.2

/-- **a package made with the library reopens as it was.**  Start from the state `create` builds,
run any admissible sequence of calls, save: reopening the saved container yields a package with
the same container, summary information, string pool and table definitions, in which every
table reads the same rows -/
theorem created_reopens (ptype : Nat) (summary : PropSet) (s0 : Pkg)
    (hc : createTable (base ptype summary) Gen.nameValidation.toList Catalog.validationColumns = (s0, .ok ()))
    (steps : List Step) (ha : Admissible s0 steps)
    (E : List Char → Bytes) (hsav : Savable (runAll s0 steps) E)
    (s1 : Pkg) (hf : finish (runAll s0 steps) = (s1, .ok ())) :
    ∃ s2, open_ (some s1.ptype) s1.cont = .ok s2 ∧
      s2.cont = s1.cont ∧ s2.summary = s1.summary ∧ s2.pool = s1.pool ∧ s2.tables = s1.tables ∧
      (∀ t, s2.loadRows t = s1.loadRows t) := by
  obtain ⟨hF0, hN0⟩ := created_full ptype summary s0 hc
  obtain ⟨tabs, hF, -⟩ := history_full _ steps s0 _ hF0 hN0 ha
  exact MsiProofs.EndToEnd.reopen_of_allInv (full_allInv _ _ tabs hF) E hsav s1 hf


theorem savable_before_flush (s : Pkg) (E : List Char → Bytes) (h : Savable (flush s).1 E) : Savable s E := by
  unfold flush at h
  cases hfin : s.finisher with
  | false => simpa [hfin] using h
  | true =>
    simp only [hfin, if_true] at h
    -- the finisher changes neither the summary nor the text of the pool
    obtain ⟨_, _, _, e, -⟩ := MsiProofs.Exec.finish_fst { s with finisher := false }
    rw [e] at h
    exact ⟨h.summary, h.fmtid, h.pool.cp, h.pool.enc, h.pool.dec, h.pool.fits⟩

/-- `create` = `Summary.new`, the base state with the title set, `create_table("_Validation")`, a flush -/
theorem create_steps {prof : Profile} {ptype : Nat} {s : Pkg} (h : create prof ptype = .ok s) :
    ∃ summary0 s0, Summary.new prof = .ok summary0 ∧
      createTable (base ptype (summary0.set Gen.propTitle (.lpstr (ptypeTitle ptype).toList)))
        Gen.nameValidation.toList Catalog.validationColumns = (s0, .ok ()) ∧
      flush s0 = (s, .ok ()) := by
  unfold create at h
  obtain ⟨summary0, hs, h⟩ := Res.bind_eq_ok.mp h
  dsimp only at h
  split at h
  · rename_i s0 hct
    split at h
    · rename_i s1 hfl
      cases h
      exact ⟨summary0, s0, hs, hct, hfl⟩
    · cases h
    · cases h
  · cases h
  · cases h

theorem create_unfold (prof : Profile) (ptype : Nat) (s : Pkg) (h : create prof ptype = .ok s) :
    ∃ summary s0, createTable (base ptype summary) Gen.nameValidation.toList Catalog.validationColumns = (s0, .ok ()) ∧
      flush s0 = (s, .ok ()) := by
  obtain ⟨summary0, s0, -, hct, hfl⟩ := create_steps h
  exact ⟨_, s0, hct, hfl⟩

/-- **every package made with `Package::create` reopens as it was**, whatever admissible calls
were made on it in between -/
theorem create_reopens (prof : Profile) (ptype : Nat) (s : Pkg) (hc : create prof ptype = .ok s)
    (E0 : List Char → Bytes) (hsav0 : Savable s E0)
    (steps : List Step) (ha : Admissible s steps)
    (E : List Char → Bytes) (hsav : Savable (runAll s steps) E)
    (s1 : Pkg) (hf : finish (runAll s steps) = (s1, .ok ())) :
    ∃ s2, open_ (some s1.ptype) s1.cont = .ok s2 ∧
      s2.cont = s1.cont ∧ s2.summary = s1.summary ∧ s2.pool = s1.pool ∧ s2.tables = s1.tables ∧
      (∀ t, s2.loadRows t = s1.loadRows t) := by
  obtain ⟨summary, s0, hct, hfl⟩ := create_unfold prof ptype s hc
  have hs : s = (flush s0).1 := by rw [hfl]
  have hadm : Admissible s0 (Step.save :: steps) := by
    refine ⟨⟨by rw [hfl], E0, savable_before_flush s0 E0 (hs ▸ hsav0)⟩, ?_⟩
    show Admissible (flush s0).1 steps
    rw [← hs]; exact ha
  have hrun : runAll s0 (Step.save :: steps) = runAll s steps := by
    show runAll (flush s0).1 steps = _
    rw [← hs]
  exact created_reopens ptype summary s0 hct (Step.save :: steps) hadm E (hrun ▸ hsav) s1 (hrun ▸ hf)


/-- **in every state reachable from `create`, every invariant holds with slack 0** -/
theorem created_history_full (ptype : Nat) (summary : PropSet) (s0 : Pkg)
    (hc : createTable (base ptype summary) Gen.nameValidation.toList Catalog.validationColumns = (s0, .ok ()))
    (steps : List Step) (ha : Admissible s0 steps) :
    ∃ tabs, Full (fun _ => 0) (runAll s0 steps) tabs ∧ NoOrphans (runAll s0 steps) := by
  obtain ⟨hF0, hN0⟩ := created_full ptype summary s0 hc
  exact history_full _ steps s0 _ hF0 hN0 ha

/-- **exact string accounting in every reachable state**: the reference count of every pool entry
equals the number of cells, over all tables, that refer to it -/
theorem created_history_exact (ptype : Nat) (summary : PropSet) (s0 : Pkg)
    (hc : createTable (base ptype summary) Gen.nameValidation.toList Catalog.validationColumns = (s0, .ok ()))
    (steps : List Step) (ha : Admissible s0 steps) (r : Nat) (hr : 0 < r) :
    (cellsOfTables (runAll s0 steps) (runAll s0 steps).tables).count (.str r) = (runAll s0 steps).pool.refcount r := by
  obtain ⟨tabs, hF, -⟩ := created_history_full ptype summary s0 hc steps ha
  have := hF.core.inv.counts r hr
  omega

/-- **ascending, hence unique, keys in every reachable state**, for every table -/
theorem created_history_sorted (ptype : Nat) (summary : PropSet) (s0 : Pkg)
    (hc : createTable (base ptype summary) Gen.nameValidation.toList Catalog.validationColumns = (s0, .ok ()))
    (steps : List Step) (ha : Admissible s0 steps) : SortedAll (runAll s0 steps) := by
  obtain ⟨tabs, hF, -⟩ := created_history_full ptype summary s0 hc steps ha
  exact hF.core.sorted

/-- **an accepted `create_table` is read back by `open`**: in the state it leaves, the catalog pass
of `open` returns the in-memory table list, which contains the new definition column for column -/
theorem createTable_then_open (slack : Nat → Nat) (s : Pkg) (tabs : List Table) (hF : Full slack s tabs)
    (hN : NoOrphans s) (name : List Char) (cols : List Column) (s4 : Pkg)
    (h : createTable s name cols = (s4, .ok ())) :
    openTables s4.ptype s4.cont s4.summary s4.pool = .ok s4.tables ∧
    (⟨name, cols, s.pool.longRefs⟩ : Table) ∈ s4.tables := by
  have hce : createError s name cols = none := by
    cases hce : createError s name cols with
    | none => rfl
    | some k => rw [MsiProofs.Exec.createTable_of_error hce] at h; cases (Prod.mk.inj h).2
  have hF4 := createTable_full slack s tabs hF name cols s4 h (fresh_of_noOrphans s hN name cols hce)
  have hA := full_allInv slack s4 _ hF4
  refine ⟨synced_open s4 _ hA.cat, ?_⟩
  have hnewTabs : ∀ x ∈ tabs, x.name ≠ name :=
    fun x hx => findTable_none_ne s name (createError_facts s name cols hce).fresh x
      ((hF.core.mem x).mpr (Or.inr (Or.inr hx)))
  exact (hF4.core.mem _).mpr (Or.inr (Or.inr ((mem_insertTable tabs _ hnewTabs _).mpr (Or.inl rfl))))

end MsiProofs.Lifecycle
