import MsiProofs.Lemmas.CreateAtomic
import MsiProofs.Lemmas.DropTotal
/-
The life of a package with NO restriction on `create_table` beyond "it does not hit the capacity
panic" and with no restriction at all on `drop_table`: since `create_table` is atomic
(`createTable_atomic`), a call that passes the up-front checks and is then refused has changed
nothing, and `drop_table` cannot fail midway (`dropTable_total`); so the histories the lifecycle
theorem covers include every `create_table` call that returns — accepted, refused up front, or
refused by the room check — and every `drop_table` call.
-/
namespace MsiProofs.Lifecycle2
open MsiModel MsiModel.Bytes MsiModel.Pkg MsiProofs.GlobalInv MsiProofs.SortedInv MsiProofs.Frame
open MsiProofs.SaveOpen MsiProofs.CreateTable MsiProofs.FullHistory MsiProofs.Created MsiProofs.Lifecycle
open MsiProofs.ValidCells MsiProofs.RelationalLife MsiProofs.CreateAtomic MsiProofs.Relational

/-- as `Step.Admissible`, but any `create_table` call that does not panic and ANY `drop_table` call
are covered -/
def AdmissibleW1 (s : Pkg) : Step → Prop
  | .create n c => ∀ w, (createTable s n c).2 ≠ .panic w
  | .drop _ => True
  | st => st.Admissible s

def AdmissibleW : Pkg → List Step → Prop
  | _, [] => True
  | s, st :: rest => AdmissibleW1 s st ∧ AdmissibleW (st.run s) rest

theorem valid_setFinisher (s : Pkg) (b : Bool) (h : ValidAll s) : ValidAll { s with finisher := b } := h

theorem admissible_or_noop (slack : Nat → Nat) (s : Pkg) (tabs : List Table) (hF : Full slack s tabs)
    (hN : NoOrphans s) (hV : ValidAll s) (st : Step) (ha : AdmissibleW1 s st) : st.Admissible s ∨ st.run s = s := by
  cases st with
  | create n c =>
    cases hce : createError s n c with
    | some k => exact Or.inl (Or.inl (by rw [hce]; exact nofun))
    | none =>
      rcases createTable_atomic slack s tabs hF hN hV n c hce with hok | ⟨w, hw⟩ | ⟨-, hst⟩
      · exact Or.inl (Or.inr hok)
      · exact absurd hw (ha w)
      · exact Or.inr hst
  | drop n =>
    refine Or.inl ?_
    by_cases href : dropRefused s n
    · exact Or.inl href
    · cases hf : s.findTable n with
      | none => exact absurd (Or.inr (Or.inr hf)) href
      | some t =>
        exact Or.inr (MsiProofs.DropTotal.dropTable_total slack s tabs hF n
          (by simpa using fun h => href (Or.inl h)) (by simpa using fun h => href (Or.inr (Or.inl h))) t hf)
  | _ => exact Or.inl ha

/-- **one call keeps every invariant and every cell valid** -/
theorem step_all (slack : Nat → Nat) (s : Pkg) (tabs : List Table) (hF : Full slack s tabs) (hN : NoOrphans s)
    (hV : ValidAll s) (st : Step) (ha : AdmissibleW1 s st) :
    ∃ tabs', Full slack (st.run s) tabs' ∧ NoOrphans (st.run s) ∧ ValidAll (st.run s) := by
  rcases admissible_or_noop slack s tabs hF hN hV st ha with h | h
  · obtain ⟨tabs', h1, h2⟩ := step_full slack s tabs hF hN st h
    exact ⟨tabs', h1, h2, step_valid slack s tabs hF hN hV st h⟩
  · rw [h]; exact ⟨tabs, hF, hN, hV⟩

/-- **every reachable state satisfies every invariant** -/
theorem history_all (slack : Nat → Nat) (steps : List Step) : ∀ (s : Pkg) (tabs : List Table),
    Full slack s tabs → NoOrphans s → ValidAll s → AdmissibleW s steps →
    ∃ tabs', Full slack (runAll s steps) tabs' ∧ NoOrphans (runAll s steps) ∧ ValidAll (runAll s steps) :=
  fun s tabs hF hN hV ha =>
    runAll_keeps (I := fun s => ∃ tabs, Full slack s tabs ∧ NoOrphans s ∧ ValidAll s) (Adm := AdmissibleW)
      (fun _ _ _ h => h) (fun s st ⟨tabs, hF, hN, hV⟩ ha => step_all slack s tabs hF hN hV st ha)
      steps s ⟨tabs, hF, hN, hV⟩ ha

/-- **save, then open**: a successful save of a state that has every invariant and can be written
leaves a container that `open` reads back as the same package -/
theorem finish_reopens {slack : Nat → Nat} {s : Pkg} {tabs : List Table} (hF : Full slack s tabs)
    {E : List Char → Bytes} (hsav : Savable s E) {s1 : Pkg} (hf : finish s = (s1, .ok ())) :
    ∃ s2, open_ (some s1.ptype) s1.cont = .ok s2 ∧
      s2.cont = s1.cont ∧ s2.summary = s1.summary ∧ s2.pool = s1.pool ∧ s2.tables = s1.tables ∧
      (∀ t, s2.loadRows t = s1.loadRows t) := by
  have h := full_allInv _ _ tabs hF
  obtain ⟨hsaved, -, -⟩ := MsiProofs.Synced.finish_step _ s1 E h.metaSync h.sep hsav hf
  have hcat := MsiProofs.CatalogSync.finish_catalogSynced _ s1 tabs h.cat hf
  obtain ⟨s2, ho, hc', hs, hp, ht⟩ := MsiProofs.CatalogSync.reopen_same_tables s1 tabs hsaved hcat
  exact ⟨s2, ho, hc', hs, hp, ht, fun t => rows_same_after_reopen s1 s2 hc' t⟩

/-- **a package made with the library reopens as it was — every `create_table` call that returns is
covered**: from the state `create` builds, after any sequence of calls (statements accepted or
refused; `create_table` accepted, refused up front or refused at the catalog's row bound;
`drop_table`; streams; signature; summary; code page; saves; close-and-reopen) and a successful
save of a state expressible in the format, `open` on the saved container yields a package with
the same container, summary, string pool and table definitions, every table reading the same rows -/
theorem created_reopens_all (ptype : Nat) (summary : PropSet) (s0 : Pkg)
    (hc : createTable (base ptype summary) Gen.nameValidation.toList Catalog.validationColumns = (s0, .ok ()))
    (steps : List Step) (ha : AdmissibleW s0 steps)
    (E : List Char → Bytes) (hsav : Savable (runAll s0 steps) E)
    (s1 : Pkg) (hf : finish (runAll s0 steps) = (s1, .ok ())) :
    ∃ s2, open_ (some s1.ptype) s1.cont = .ok s2 ∧
      s2.cont = s1.cont ∧ s2.summary = s1.summary ∧ s2.pool = s1.pool ∧ s2.tables = s1.tables ∧
      (∀ t, s2.loadRows t = s1.loadRows t) := by
  obtain ⟨hF0, hN0⟩ := created_full ptype summary s0 hc
  obtain ⟨tabs, hF, -, -⟩ := history_all _ steps s0 _ hF0 hN0 (created_valid ptype summary s0 hc) ha
  exact finish_reopens hF hsav hf

/-- **a rejected `create_table` changes nothing observable** (property C04, including the failures
discovered late): in every state with the invariants, a `create_table` call that returns an error
leaves the package exactly as it was: table list, rows, container, summary, even the pending flags -/
theorem createTable_rejected_view (slack : Nat → Nat) (s : Pkg) (tabs : List Table) (hF : Full slack s tabs)
    (hN : NoOrphans s) (hV : ValidAll s) (name : List Char) (cols : List Column) (k : ErrKind)
    (h : (createTable s name cols).2 = .err k) :
    (createTable s name cols).1 = s := by
  cases hce : createError s name cols with
  | some k' =>
    unfold createTable; rw [hce]
  | none =>
    rcases createTable_atomic slack s tabs hF hN hV name cols hce with hok | ⟨w, hw⟩ | ⟨-, hst⟩
    · rw [hok] at h; cases h
    · rw [hw] at h; cases h
    · exact hst

end MsiProofs.Lifecycle2
