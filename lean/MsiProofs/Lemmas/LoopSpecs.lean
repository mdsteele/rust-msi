import MsiModel.Pkg
import MsiProofs.Lemmas.PoolOps
/-
What the loops of the statements return, stated once per loop: interning and releasing have no
error outcome, so neither have the loops; the key-sorted map is a permutation of what was put into it; the rows `deleteGo` keeps are a sub-list
of the rows it was given; `updApply` returns as many rows as it was given; a plan of `updPlan` that
exists is the row-by-row plan.  Membership, length and the multiset of cells all follow.
-/
namespace MsiProofs.LoopSpecs
open MsiModel MsiModel.Pkg

theorem create_ne_err (p : Pool) (v : Value) (k : ErrKind) : Cell.create p v ≠ .err k := by
  cases v with
  | null => exact fun h => nomatch h
  | int n => exact fun h => nomatch h
  | str st =>
    intro h
    rcases Res.bind_eq_err.mp h with h1 | ⟨_, -, h2⟩
    · exact MsiProofs.PoolOps.incref_ne_err p st k h1
    · cases h2

theorem createCells_ne_err : ∀ (vs : List Value) (p : Pool) (acc : List Cell) (k : ErrKind),
    createCells p vs acc ≠ .err k
  | [], _, _, _, h => nomatch h
  | v :: vs, p, _, k, h => by
    rcases Res.bind_eq_err.mp h with h1 | ⟨_, -, h2⟩
    · exact create_ne_err p v k h1
    · exact createCells_ne_err vs _ _ k h2

theorem cellsUpd_ne_err : ∀ (us : List (Nat × Value)) (p : Pool) (cells : List Cell) (k : ErrKind),
    cellsUpd p cells us ≠ .err k
  | [], _, _, _, h => nomatch h
  | (_, v) :: us, _, _, k, h => by
    rcases Res.bind_eq_err.mp h with h1 | ⟨_, -, h2⟩
    · exact create_ne_err _ v k h1
    · exact cellsUpd_ne_err us _ _ k h2

theorem updApply_ne_err (ups : List (Nat × Value)) : ∀ (rows : List (List Cell)) (p : Pool)
    (pl : List (List Value × Bool)) (acc : List (List Cell)) (k : ErrKind), updApply ups p rows pl acc ≠ .err k
  | [], _, _, _, _, h => nomatch h
  | _ :: _, _, [], _, _, h => nomatch h
  | r :: rs, p, (_, false) :: pl, acc, k, h => updApply_ne_err ups rs p pl (r :: acc) k h
  | r :: rs, p, (_, true) :: pl, _, k, h => by
    rcases Res.bind_eq_err.mp h with h1 | ⟨_, -, h2⟩
    · exact cellsUpd_ne_err ups p r k h1
    · exact updApply_ne_err ups rs _ pl _ k h2

theorem mapInsert_perm {k : List Value} {v : List Cell} : ∀ {m m' : RowMap},
    mapInsert k v m = some m' → m'.Perm ((k, v) :: m)
  | [], _, h => by cases h; exact .refl _
  | (k', v') :: rest, m', h => by
    simp only [mapInsert] at h
    split at h
    · cases h; exact .refl _
    · split at h
      · obtain ⟨r, hr, rfl⟩ := Option.map_eq_some_iff.mp h
        exact ((mapInsert_perm hr).cons (k', v')).trans (.swap _ _ _)
      · cases h

theorem loadMap_perm {p : Pool} {idx : List Nat} : ∀ {rows : List (List Cell)} {m m' : RowMap},
    loadMap p idx rows m = some m' → m'.Perm (rows.map (fun r => (keyOf idx (rowValues p r), r)) ++ m)
  | [], _, _, h => by cases h; exact .refl _
  | r :: rs, m, m', h => by
    simp only [loadMap] at h
    cases hm : mapInsert (keyOf idx (rowValues p r)) r m with
    | none => rw [hm] at h; cases h
    | some m1 =>
      rw [hm] at h
      exact (loadMap_perm h).trans ((List.Perm.append_left _ (mapInsert_perm hm)).trans List.perm_middle)

theorem loadMap_nil {p : Pool} {idx : List Nat} {rows : List (List Cell)} {m : RowMap}
    (h : loadMap p idx rows [] = some m) :
    (m.map (·.2)).Perm rows ∧ ∀ e ∈ m, e.1 = keyOf idx (rowValues p e.2) := by
  have hp := loadMap_perm h
  rw [List.append_nil] at hp
  refine ⟨?_, fun e he => ?_⟩
  · simpa [Function.comp_def] using hp.map (·.2)
  obtain ⟨r, -, rfl⟩ := List.mem_map.mp (hp.mem_iff.mp he)
  rfl

theorem deleteGo_sublist {t : Table} {cond : Option Ast} : ∀ {rows : List (List Cell)} {p : Pool}
    {acc : List (List Cell)} {p' : Pool} {kept : List (List Cell)},
    deleteGo t cond p rows acc = .ok (p', kept) → ∃ l, l.Sublist rows ∧ kept = acc.reverse ++ l
  | [], _, _, _, _, h => by cases h; exact ⟨[], .slnil, by simp⟩
  | r :: rs, _, _, _, _, h => by
    obtain ⟨del, -, h2⟩ := Res.bind_eq_ok.mp h
    cases del with
    | true =>
      obtain ⟨l, hl, e⟩ := deleteGo_sublist h2
      exact ⟨l, hl.cons r, e⟩
    | false =>
      obtain ⟨l, hl, e⟩ := deleteGo_sublist h2
      exact ⟨r :: l, hl.cons_cons r, by rw [e]; simp⟩

theorem updApply_length {ups : List (Nat × Value)} : ∀ {rows : List (List Cell)} {p : Pool}
    {pl : List (List Value × Bool)} {acc : List (List Cell)} {p' : Pool} {out : List (List Cell)},
    updApply ups p rows pl acc = .ok (p', out) → out.length = acc.length + rows.length
  | [], _, _, _, _, _, h => by cases h; simp
  | r :: rs, _, [], _, _, _, h => by cases h; simp
  | r :: rs, _, (_, true) :: pl, _, _, _, h => by
    obtain ⟨⟨q, c⟩, -, h2⟩ := Res.bind_eq_ok.mp h
    rw [updApply_length h2]; simp; omega
  | r :: rs, _, (_, false) :: pl, acc, _, _, h => by
    have : updApply ups _ rs pl (r :: acc) = .ok _ := h
    rw [updApply_length this]; simp; omega

/-- what `updPlan` plans for one row: the new values, and whether the row matched -/
def planRow (t : Table) (p : Pool) (cond : Option Ast) (ups : List (Nat × Value)) (r : List Cell) :
    List Value × Bool :=
  let m := evalCond t p cond r == .ok true
  (if m then ups.foldl (fun vs (iv : Nat × Value) => vs.set iv.1 iv.2) (rowValues p r) else rowValues p r, m)

theorem updPlan_eq {t : Table} {p : Pool} {cond : Option Ast} {ups : List (Nat × Value)} :
    ∀ {rows : List (List Cell)} {acc planned : List (List Value × Bool)},
    updPlan t p cond ups rows acc = .ok planned → planned = acc.reverse ++ rows.map (planRow t p cond ups)
  | [], _, _, h => by cases h; simp
  | r :: rs, acc, _, h => by
    obtain ⟨m, hm, h2⟩ := Res.bind_eq_ok.mp h
    rw [updPlan_eq h2]
    cases m <;> simp [planRow, hm]

end MsiProofs.LoopSpecs

/-! The condition of a statement looks at a row only through its values. -/

namespace MsiProofs.Relational
open MsiModel MsiModel.Pkg

/-- a condition evaluated on the values of a row (what the relational model evaluates) -/
def condV (t : Table) (cond : Option Ast) (vals : List Value) : Res Bool :=
  match cond with
  | none => pure true
  | some e => do
    let v ← e.eval (mkRow t vals)
    pure v.toBool

theorem evalCond_eq (t : Table) (p : Pool) (cond : Option Ast) (r : List Cell) :
    evalCond t p cond r = condV t cond (rowValues p r) := by
  cases cond <;> rfl

end MsiProofs.Relational
