import MsiModel.Pkg
import MsiProofs.Lemmas.Basic
/-
The loops of the statements (`createCells`, `addRows`, `deleteGo`, `cellsUpd`, `updApply`) touch
the string pool only through `Pool.incref` and `Pool.decref`.  So a reflexive, transitive relation
between pools that those two respect is respected by every loop: the one induction per loop is
done here, and each invariant of the pool supplies its two base facts.
-/
namespace MsiProofs.Loops
open MsiModel MsiModel.Pkg

/-- a relation between the pool before and after that `incref` (of a string satisfying `A`)
respects: enough for the loops that only intern -/
structure IncRel (A : List Char → Prop) (R : Pool → Pool → Prop) : Prop where
  refl : ∀ p, R p p
  trans : ∀ {a b c}, R a b → R b c → R a c
  incref : ∀ p s p' r, A s → p.incref s = .ok (p', r) → R p p'

/-- ... and that `decref` respects too: for the loops that also release -/
structure PoolRel (A : List Char → Prop) (R : Pool → Pool → Prop) : Prop where
  refl : ∀ p, R p p
  trans : ∀ {a b c}, R a b → R b c → R a c
  incref : ∀ p s p' r, A s → p.incref s = .ok (p', r) → R p p'
  decref : ∀ p r, R p (p.decref r)

theorem PoolRel.inc {A : List Char → Prop} {R : Pool → Pool → Prop} (h : PoolRel A R) : IncRel A R :=
  ⟨h.refl, h.trans, h.incref⟩

def StrsIn (A : List Char → Prop) (vs : List Value) : Prop := ∀ s, Value.str s ∈ vs → A s

section interning
variable {A : List Char → Prop} {R : Pool → Pool → Prop} (h : IncRel A R)
include h

theorem create_inc {p : Pool} {v : Value} {p' : Pool} {c : Cell} (hv : ∀ s, v = .str s → A s)
    (hc : Cell.create p v = .ok (p', c)) : R p p' := by
  cases v with
  | null => cases hc; exact h.refl _
  | int n => cases hc; exact h.refl _
  | str s =>
    obtain ⟨⟨q, r⟩, hi, hq⟩ := Res.bind_eq_ok.mp hc
    cases hq
    exact h.incref p s _ r (hv s rfl) hi

theorem createCells_inc : ∀ (vs : List Value) {p : Pool} {acc : List Cell} {p' : Pool} {cs : List Cell},
    StrsIn A vs → createCells p vs acc = .ok (p', cs) → R p p'
  | [], p, _, _, _, _, hc => by cases hc; exact h.refl p
  | v :: vs, _, _, _, _, hv, hc => by
    obtain ⟨⟨q, c⟩, h1, h2⟩ := Res.bind_eq_ok.mp hc
    exact h.trans (create_inc h (fun s e => hv s (e ▸ List.mem_cons_self)) h1)
      (createCells_inc vs (fun s hs => hv s (List.mem_cons_of_mem _ hs)) h2)

theorem addRows_inc (keyIdx : List Nat) : ∀ (rows : List (List Value)) {p : Pool} {m : RowMap} {p' : Pool}
    {m' : RowMap}, (∀ r ∈ rows, StrsIn A r) → addRows keyIdx p rows m = .ok (p', m') → R p p'
  | [], p, _, _, _, _, hc => by cases hc; exact h.refl p
  | r :: rs, p, m, _, _, hv, hc => by
    obtain ⟨⟨q, cells⟩, h1, h2⟩ := Res.bind_eq_ok.mp hc
    have h1' := createCells_inc h r (hv r List.mem_cons_self) h1
    cases hm : mapInsert (keyOf keyIdx r) cells m with
    | none => simp [hm] at h2
    | some m1 =>
      simp only [hm] at h2
      exact h.trans h1' (addRows_inc keyIdx rs (fun r' hr' => hv r' (List.mem_cons_of_mem _ hr')) h2)

end interning

variable {A : List Char → Prop} {R : Pool → Pool → Prop} (h : PoolRel A R)
include h

theorem create_rel {p : Pool} {v : Value} {p' : Pool} {c : Cell} (hv : ∀ s, v = .str s → A s)
    (hc : Cell.create p v = .ok (p', c)) : R p p' := create_inc h.inc hv hc

theorem createCells_rel (vs : List Value) {p : Pool} {acc : List Cell} {p' : Pool} {cs : List Cell}
    (hv : StrsIn A vs) (hc : createCells p vs acc = .ok (p', cs)) : R p p' := createCells_inc h.inc vs hv hc

theorem addRows_rel (keyIdx : List Nat) (rows : List (List Value)) {p : Pool} {m : RowMap} {p' : Pool} {m' : RowMap}
    (hv : ∀ r ∈ rows, StrsIn A r) (hc : addRows keyIdx p rows m = .ok (p', m')) : R p p' :=
  addRows_inc h.inc keyIdx rows hv hc

theorem remove_rel (p : Pool) (c : Cell) : R p (Cell.remove p c) := by
  cases c with
  | str r => exact h.decref p r
  | null => exact h.refl _
  | int n => exact h.refl _

theorem foldl_remove_rel (cells : List Cell) : ∀ p, R p (cells.foldl Cell.remove p) := by
  induction cells with
  | nil => exact h.refl
  | cons c cs ih => exact fun p => h.trans (remove_rel h p c) (ih _)

theorem deleteGo_rel (t : Table) (cond : Option Ast) : ∀ (rows : List (List Cell)) {p : Pool}
    {acc : List (List Cell)} {p' : Pool} {kept : List (List Cell)},
    deleteGo t cond p rows acc = .ok (p', kept) → R p p'
  | [], p, _, _, _, hc => by cases hc; exact h.refl p
  | r :: rs, p, _, _, _, hc => by
    obtain ⟨del, -, h2⟩ := Res.bind_eq_ok.mp hc
    cases del with
    | true => exact h.trans (foldl_remove_rel h r p) (deleteGo_rel t cond rs h2)
    | false => exact deleteGo_rel t cond rs h2

theorem cellsUpd_rel : ∀ (us : List (Nat × Value)) {p : Pool} {cells : List Cell} {p' : Pool}
    {cells' : List Cell}, (∀ u ∈ us, ∀ s, u.2 = .str s → A s) → cellsUpd p cells us = .ok (p', cells') → R p p'
  | [], p, _, _, _, _, hc => by cases hc; exact h.refl p
  | (i, v) :: us, p, cells, _, _, hv, hc => by
    obtain ⟨⟨q, c⟩, h1, h2⟩ := Res.bind_eq_ok.mp hc
    exact h.trans (h.trans (remove_rel h p _) (create_rel h (hv (i, v) List.mem_cons_self) h1))
      (cellsUpd_rel us (fun u hu => hv u (List.mem_cons_of_mem _ hu)) h2)

theorem updApply_rel (ups : List (Nat × Value)) (hv : ∀ u ∈ ups, ∀ s, u.2 = .str s → A s) :
    ∀ (rows : List (List Cell)) {p : Pool} {pl : List (List Value × Bool)} {acc : List (List Cell)}
      {p' : Pool} {rows' : List (List Cell)}, updApply ups p rows pl acc = .ok (p', rows') → R p p'
  | [], p, _, _, _, _, hc => by cases hc; exact h.refl p
  | r :: rs, p, [], _, _, _, hc => by cases hc; exact h.refl p
  | r :: rs, p, (_, true) :: pl, _, _, _, hc => by
    obtain ⟨⟨q, c⟩, h1, h2⟩ := Res.bind_eq_ok.mp hc
    exact h.trans (cellsUpd_rel h ups hv h1) (updApply_rel ups hv rs h2)
  | r :: rs, p, (_, false) :: pl, _, _, _, hc => updApply_rel ups hv rs hc

end MsiProofs.Loops
