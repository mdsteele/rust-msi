import MsiProofs.Props.C09b
import MsiProofs.Lemmas.Exec
/-
More of "no panic outcome" (property C09), on ANY package state (no invariant assumed — the state
may come from a foreign or damaged file): `drop_table` never panics; `create_table` never panics
while the string pool has room for the catalog strings of the new table; the finisher / `flush`
never panics when the database code page is one of the supported ones.
-/
namespace MsiProofs.C09
open MsiModel MsiModel.Bytes MsiModel.Pkg MsiProofs.Order

/-! ### how much an insert can grow the pool -/

theorem create_grow (p : Pool) (v : Value) (p' : Pool) (c : Cell) (h : Cell.create p v = .ok (p', c)) :
    p'.strings.length ≤ p.strings.length + 1 := by
  cases v with
  | null => cases h; exact Nat.le_add_right _ _
  | int n => cases h; exact Nat.le_add_right _ _
  | str s =>
    obtain ⟨⟨p1, r⟩, hi, h⟩ := Res.bind_eq_ok.mp h
    cases h
    exact incref_grow p s _ _ hi

theorem createCells_grow : ∀ (vs : List Value) (p : Pool) (acc : List Cell) (p' : Pool) (cs : List Cell),
    createCells p vs acc = .ok (p', cs) → p'.strings.length ≤ p.strings.length + vs.length := by
  intro vs
  induction vs with
  | nil => intro p acc p' cs h; cases h; exact Nat.le_refl _
  | cons v rest ih =>
    intro p acc p' cs h
    obtain ⟨⟨p1, c⟩, hc, h⟩ := Res.bind_eq_ok.mp h
    have h1 := create_grow p v p1 c hc
    have h2 := ih p1 (c :: acc) p' cs h
    simp only [List.length_cons]; omega

theorem addRows_grow (idx : List Nat) (n : Nat) : ∀ (rows : List (List Value)) (p : Pool) (m : RowMap) (p' : Pool) (m' : RowMap),
    (∀ r ∈ rows, r.length = n) → addRows idx p rows m = .ok (p', m') →
    p'.strings.length ≤ p.strings.length + rows.length * n := by
  intro rows
  induction rows with
  | nil => intro p m p' m' _ h; cases h; exact Nat.le_add_right _ _
  | cons r rest ih =>
    intro p m p' m' hlen h
    obtain ⟨⟨p1, cells⟩, hc, h⟩ := Res.bind_eq_ok.mp h
    cases hm : mapInsert (keyOf idx r) cells m with
    | none => simp [hm] at h
    | some m1 =>
      simp only [hm] at h
      have h1 := createCells_grow r p [] p1 cells hc
      have h2 := ih p1 m1 p' m' (fun x hx => hlen x (List.mem_cons_of_mem _ hx)) h
      have hr := hlen r List.mem_cons_self
      simp only [List.length_cons]
      rw [Nat.add_mul]; omega

theorem insertExec_grow (s : Pkg) (tname : List Char) (rows : List (List Value)) (n : Nat)
    (hn : ∀ t, s.findTable tname = some t → (∀ r ∈ rows, r.length = t.columns.length) → t.columns.length = n) :
    (insertExec s tname rows).1.pool.strings.length ≤ s.pool.strings.length + rows.length * n := by
  rw [Exec.insertExec_eq]
  rcases Exec.onTable_stored s tname (Exec.insertPlan s rows) with h | ⟨t, pool', out, hf, hp, h⟩
  · rw [h]; exact Nat.le_add_right _ _
  · have hpool : (storeRows { s with pool := pool' } t out).1.pool = pool' := by
      rcases Exec.storeRows_fst { s with pool := pool' } t out with e | ⟨bs, e⟩ <;> rw [e]
    rw [h, hpool]
    obtain ⟨existing, m, m', hlen, -, -, -, -, -, ha, -⟩ := Exec.insertPlan_ok.mp hp
    have := addRows_grow t.keyIndices n (rows.map fun r => r.map storable) s.pool m pool' m'
      (by intro r hr; obtain ⟨x, hx, rfl⟩ := List.mem_map.mp hr; rw [List.length_map, hlen x hx, hn t hf hlen]) ha
    rwa [List.length_map] at this

/-! ### create_table, drop_table -/

theorem np_catalogRoomOne (s : Pkg) (catalog key name : List Char) (n : Nat) : NoPanic (catalogRoomOne s catalog key name n) := by
  unfold catalogRoomOne
  cases s.findTable catalog with
  | none => exact np_ok _
  | some t =>
    simp only
    cases hl : s.loadRows t with
    | err k => exact np_err _
    | panic w => exact absurd hl (np_loadRows s t w)
    | ok rows =>
      refine np_ite (np_err _) ?_
      cases t.indexOfColumn key with
      | none => exact np_err _
      | some i => exact np_ite (np_err _) (np_ok _)

theorem np_catalogRoom (s : Pkg) (name : List Char) (cols : List Column) : NoPanic (catalogRoom s name cols) := by
  unfold catalogRoom
  split
  · exact np_err _
  have h1 := np_catalogRoomOne s Gen.nameColumns.toList "Table".toList name cols.length
  cases hr1 : catalogRoomOne s Gen.nameColumns.toList "Table".toList name cols.length with
  | err k => exact np_err _
  | panic w => exact absurd hr1 (h1 w)
  | ok u =>
    cases u
    simp only
    have h2 := np_catalogRoomOne s Gen.nameTables.toList "Name".toList name 1
    cases hr2 : catalogRoomOne s Gen.nameTables.toList "Name".toList name 1 with
    | err k => exact np_err _
    | panic w => exact absurd hr2 (h2 w)
    | ok u =>
      cases u
      exact np_catalogRoomOne s Gen.nameValidation.toList "Table".toList name cols.length

theorem np_andThen {r : Pkg × Res Unit} {g : Pkg → Pkg × Res Unit} (hr : NoPanic r.2)
    (hg : ∀ s1, r = (s1, .ok ()) → NoPanic (g s1).2) : NoPanic (Exec.andThen r g).2 := by
  obtain ⟨s1, res⟩ := r
  rcases res with ⟨⟨⟩⟩ | k | w
  · exact hg s1 rfl
  · exact np_err _
  · exact absurd rfl (hr w)

theorem catalogRowsColumns_shape (name : List Char) (cols : List Column) :
    (catalogRowsColumns name cols).length = cols.length ∧ ∀ r ∈ catalogRowsColumns name cols, r.length = 4 := by
  unfold catalogRowsColumns
  exact ⟨by simp, fun r hr => by obtain ⟨x, -, rfl⟩ := List.mem_map.mp hr; rfl⟩

theorem catalogRowsValidation_shape (name : List Char) (cols : List Column) :
    (catalogRowsValidation name cols).length = cols.length ∧
      ∀ r ∈ catalogRowsValidation name cols, r.length = 10 := by
  unfold catalogRowsValidation
  exact ⟨by simp, fun r hr => by obtain ⟨c, -, rfl⟩ := List.mem_map.mp hr; rfl⟩

/-- rows of one width `n`, at least one of them: the table takes them only if it has `n` columns -/
theorem arity_of_rows {rows : List (List Value)} {n m : Nat} (hne : rows ≠ []) (hw : ∀ r ∈ rows, r.length = n)
    (hlen : ∀ r ∈ rows, r.length = m) : m = n := by
  obtain ⟨r0, h0⟩ := List.exists_mem_of_ne_nil _ hne
  rw [← hlen r0 h0, hw r0 h0]

theorem insertRows_np_of_room (s : Pkg) (tn : List Char) (rows : List (List Value)) (n : Nat) (hne : rows ≠ [])
    (hw : ∀ r ∈ rows, r.length = n) (hroom : Room s.pool (rows.length * n)) : NoPanic (insertRows s tn rows).2 :=
  insert_never_panics' _ tn rows fun _ _ hlen => by rw [arity_of_rows hne hw hlen]; exact hroom

theorem insertRows_grow (s : Pkg) (tn : List Char) (rows : List (List Value)) (n : Nat) (hne : rows ≠ [])
    (hw : ∀ r ∈ rows, r.length = n) :
    (insertRows s tn rows).1.pool.strings.length ≤ s.pool.strings.length + rows.length * n :=
  insertExec_grow _ tn rows n fun _ _ hlen => arity_of_rows hne hw hlen

/-- **`create_table` never panics** while the pool has room for the catalog strings of the new
table: four per column in `_Columns`, one in `_Tables`, ten per column in `_Validation` -/
theorem createTable_never_panics (s : Pkg) (name : List Char) (cols : List Column)
    (hroom : Room s.pool (14 * cols.length + 1)) : NoPanic (createTable s name cols).2 := by
  cases hce : createError s name cols with
  | some k => rw [Exec.createTable_of_error hce]; exact np_err _
  | none =>
    rw [Exec.createTable_eq hce]
    cases hcr : catalogRoom s name cols with
    | err k => exact np_err _
    | panic w => exact absurd hcr (np_catalogRoom s name cols w)
    | ok u =>
      have hpos : 0 < cols.length := by
        have := (Exec.createError_eq_none.mp hce).2.2.1
        exact List.length_pos_iff.mpr (by simpa using this)
      obtain ⟨hlC, hwC⟩ := catalogRowsColumns_shape name cols
      obtain ⟨hlV, hwV⟩ := catalogRowsValidation_shape name cols
      have hneC : catalogRowsColumns name cols ≠ [] := List.ne_nil_of_length_pos (by omega)
      have hneV : catalogRowsValidation name cols ≠ [] := List.ne_nil_of_length_pos (by omega)
      refine np_andThen (insertRows_np_of_room s _ _ 4 hneC hwC (hroom.mono (by omega))) fun s1 h1 => ?_
      have g1 : s1.pool.strings.length ≤ s.pool.strings.length + cols.length * 4 := by
        have := insertRows_grow s Gen.nameColumns.toList _ 4 hneC hwC
        rw [h1, hlC] at this
        exact this
      have hroom1 : Room s1.pool (10 * cols.length + 1) := by unfold Room at *; omega
      refine np_andThen (insertRows_np_of_room s1 _ [[.str name]] 1 (by simp) (by simp)
        (hroom1.mono (by simp only [List.length_cons, List.length_nil]; omega))) fun s2 h2 => ?_
      have g2 : s2.pool.strings.length ≤ s1.pool.strings.length + 1 := by
        have := insertRows_grow s1 Gen.nameTables.toList [[.str name]] 1 (by simp) (by simp)
        rw [h2] at this
        exact this
      have hroom2 : Room s2.pool (10 * cols.length) := by unfold Room at *; omega
      exact insertRows_np_of_room _ _ _ 10 hneV hwV (hroom2.mono (by omega))

theorem np_dropStream (s : Pkg) (t : Table) : NoPanic (Exec.dropStream s t).2 := by
  unfold Exec.dropStream
  split
  · cases hl : s.loadRows t with
    | err k => exact np_err _
    | panic w => exact absurd hl (np_loadRows s t w)
    | ok rows => exact np_ok _
  · exact np_ok _

theorem np_deleteValidation (s : Pkg) (name : List Char) : NoPanic (deleteValidation s name).2 := by
  unfold deleteValidation
  split
  · exact delete_never_panics _ _ _
  · exact np_ok _

/-- **`drop_table` never panics**, on any package state -/
theorem dropTable_never_panics (s : Pkg) (name : List Char) : NoPanic (dropTable s name).2 := by
  by_cases hr : Catalog.isReserved name = true
  · unfold dropTable; rw [if_pos hr]; exact np_err _
  by_cases hv : Table.isValidName name = true
  · cases hf : s.findTable name with
    | none => unfold dropTable; rw [if_neg hr, if_neg (by simp [hv]), hf]; exact np_err _
    | some t =>
      rw [Exec.dropTable_eq (by simpa using hr) hv hf]
      exact np_andThen (np_dropStream s t) fun s1 _ => np_andThen (np_deleteValidation s1 name) fun s2 _ =>
        np_andThen (delete_never_panics _ _ _) fun s3 _ => np_andThen (delete_never_panics _ _ _) fun s4 _ => np_ok _
  · unfold dropTable; rw [if_neg hr, if_pos (by simp [hv])]; exact np_err _


/-! ### the finisher -/

theorem np_propVal_size (cp : Nat) (v : PropVal) : NoPanic (v.size cp) := by
  cases v with
  | lpstr s =>
    simp only [PropVal.size]
    split
    · exact np_err _
    · exact np_ok _
  | _ => exact np_ok _

theorem np_propVal_write (cp : Nat) (v : PropVal) : NoPanic (v.write cp) := by
  cases v with
  | lpstr s =>
    simp only [PropVal.write]
    split
    · exact np_err _
    · exact np_ok _
  | _ => exact np_ok _

theorem np_offsets (p : PropSet) : ∀ (l : List (Nat × PropVal)) (size : Nat) (acc : List Nat),
    NoPanic (PropSet.write.offsets p l size acc) := by
  intro l
  induction l with
  | nil => intro size acc; exact np_pure _
  | cons kv rest ih =>
    intro size acc
    obtain ⟨k, v⟩ := kv
    simp only [PropSet.write.offsets]
    exact np_bind (np_propVal_size _ _) fun _ => ih _ _

theorem np_values (p : PropSet) : ∀ (l : List (Nat × PropVal)) (acc : Bytes),
    NoPanic (PropSet.write.values p l acc) := by
  intro l
  induction l with
  | nil => intro acc; exact np_pure _
  | cons kv rest ih =>
    intro acc
    obtain ⟨k, v⟩ := kv
    simp only [PropSet.write.values]
    exact np_bind (np_propVal_write _ _) fun _ => ih _

theorem np_propset_write (p : PropSet) : NoPanic p.write := by
  unfold PropSet.write
  exact np_bind (np_offsets p _ _ _) fun _ => np_bind (np_values p _ _) fun _ => np_pure _

theorem np_writeData (p : Pool) : NoPanic p.writeData := by
  unfold Pool.writeData
  split
  · exact np_err _
  · exact np_pure _

theorem np_writePool (p : Pool) (h : CodePage.id p.codepage ≠ none) : NoPanic p.writePool := by
  unfold Pool.writePool
  apply np_bind
  · unfold Pool.poolHeader
    cases hc : CodePage.id p.codepage with
    | none => exact absurd hc h
    | some n => exact np_ok _
  · intro _
    split
    · exact np_err _
    · exact np_pure _

/-- **the finisher never panics** when the database code page is a supported one — on any state,
whatever the summary and the pool hold -/
theorem finish_never_panics (s : Pkg) (h : CodePage.id s.pool.codepage ≠ none) : NoPanic (finish s).2 := by
  -- the pool half, for whatever state the summary half leaves
  have hp : ∀ s1 : Pkg, s1.pool = s.pool → NoPanic (if s1.pool.modified then
      match s1.pool.writePool, s1.pool.writeData with
      | .ok pb, .ok db =>
        ({ s1 with cont := Cont.put (Cont.put s1.cont sPool pb) sData db,
                   pool := { s1.pool with modified := false } }, Res.ok ())
      | .err k, _ => (s1, .err k)
      | .panic w, _ => (s1, .panic w)
      | _, .err k => (s1, .err k)
      | _, .panic w => (s1, .panic w)
    else (s1, .ok ())).2 := by
    intro s1 e
    split
    · rw [e]
      cases hw : s.pool.writePool with
      | err k => exact np_err _
      | panic w => exact absurd hw (np_writePool s.pool h w)
      | ok pb =>
        cases hw2 : s.pool.writeData with
        | err k => exact np_err _
        | panic w => exact absurd hw2 (np_writeData s.pool w)
        | ok db => exact np_ok _
    · exact np_ok _
  unfold finish
  cases hsm : s.summaryModified
  · exact hp s rfl
  · cases hw0 : s.summary.write with
    | err k => exact np_err _
    | panic w => exact absurd hw0 (np_propset_write s.summary w)
    | ok sb => exact hp _ rfl

/-- **`flush` never panics** when the database code page is a supported one -/
theorem flush_never_panics (s : Pkg) (h : CodePage.id s.pool.codepage ≠ none) : NoPanic (flush s).2 := by
  unfold flush
  split
  · exact finish_never_panics _ h
  · exact np_ok _

end MsiProofs.C09
