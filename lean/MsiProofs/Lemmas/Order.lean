import MsiModel.Pkg
/-
The derived ordering of `Value` and of key tuples is a strict total order; the
key-sorted association list (`BTreeMap` of the code) stays strictly sorted.
-/
namespace MsiProofs.Order
open MsiModel MsiModel.Value

/-! ### the lexicographic order

`strLt` (on code points) and `keyLt` (on values) are the same recursion over a strict order of
the components; its three laws are proved once, for any component order that has them. -/

def lexLt {α} (lt : α → α → Bool) : List α → List α → Bool
  | [], [] => false
  | [], _ :: _ => true
  | _ :: _, [] => false
  | a :: as, b :: bs => if lt a b then true else if lt b a then false else lexLt lt as bs

section lex
variable {α : Type} {lt : α → α → Bool}

theorem lexLt_irrefl (irr : ∀ a, lt a a = false) (a : List α) : lexLt lt a a = false := by
  induction a with
  | nil => rfl
  | cons x xs ih => simp [lexLt, irr, ih]

theorem lexLt_connected (conn : ∀ {a b}, lt a b = false → lt b a = false → a = b) {a b : List α}
    (h1 : lexLt lt a b = false) (h2 : lexLt lt b a = false) : a = b := by
  induction a generalizing b with
  | nil =>
    cases b with
    | nil => rfl
    | cons y ys => simp [lexLt] at h1
  | cons x xs ih =>
    cases b with
    | nil => simp [lexLt] at h2
    | cons y ys =>
      simp only [lexLt] at h1 h2
      cases hxy : lt x y
      · cases hyx : lt y x
        · simp only [hxy, hyx, Bool.false_eq_true, if_false] at h1 h2
          rw [conn hxy hyx, ih h1 h2]
        · simp [hyx] at h2
      · simp [hxy] at h1

theorem lexLt_trans (tr : ∀ {a b c}, lt a b = true → lt b c = true → lt a c = true)
    (conn : ∀ {a b}, lt a b = false → lt b a = false → a = b) {a b c : List α}
    (h1 : lexLt lt a b = true) (h2 : lexLt lt b c = true) : lexLt lt a c = true := by
  induction a generalizing b c with
  | nil =>
    cases b with
    | nil => simp [lexLt] at h1
    | cons y ys =>
      cases c with
      | nil => simp [lexLt] at h2
      | cons z zs => rfl
  | cons x xs ih =>
    cases b with
    | nil => simp [lexLt] at h1
    | cons y ys =>
      cases c with
      | nil => simp [lexLt] at h2
      | cons z zs =>
        simp only [lexLt] at h1 h2 ⊢
        -- the heads: x < y, or x = y (then y against z decides), the third case contradicts h1
        cases hxy : lt x y
        · cases hyx : lt y x
          · obtain rfl := conn hxy hyx
            simp only [hxy, Bool.false_eq_true, if_false] at h1
            cases hxz : lt x z
            · cases hzx : lt z x
              · simp only [hxz, hzx, Bool.false_eq_true, if_false] at h2 ⊢
                exact ih h1 h2
              · simp [hxz, hzx] at h2
            · simp
          · simp [hxy, hyx] at h1
        · cases hyz : lt y z
          · cases hzy : lt z y
            · obtain rfl := conn hyz hzy
              simp [hxy]
            · simp [hyz, hzy] at h2
          · simp [tr hxy hyz]

end lex

def charLt (a b : Char) : Bool := decide (a.val < b.val)

theorem strLt_eq (a b : List Char) : strLt a b = lexLt charLt a b := by
  induction a generalizing b with
  | nil => cases b <;> rfl
  | cons x xs ih => cases b <;> simp [strLt, lexLt, charLt, ih]

theorem charLt_trans {a b c : Char} (h1 : charLt a b = true) (h2 : charLt b c = true) : charLt a c = true := by
  simp only [charLt, decide_eq_true_eq] at *
  exact UInt32.lt_trans h1 h2

theorem charLt_connected {a b : Char} (h1 : charLt a b = false) (h2 : charLt b a = false) : a = b := by
  simp only [charLt, decide_eq_false_iff_not] at *
  exact Char.ext (UInt32.le_antisymm (UInt32.not_lt.mp h2) (UInt32.not_lt.mp h1))

theorem strLt_irrefl (a : List Char) : strLt a a = false := by
  rw [strLt_eq]; exact lexLt_irrefl (fun c => by simp [charLt]) a

theorem strLt_trans {a b c : List Char} (h1 : strLt a b = true) (h2 : strLt b c = true) :
    strLt a c = true := by
  rw [strLt_eq] at *; exact lexLt_trans (lt := charLt) charLt_trans charLt_connected h1 h2

theorem strLt_connected {a b : List Char} (h1 : strLt a b = false) (h2 : strLt b a = false) : a = b := by
  rw [strLt_eq] at *; exact lexLt_connected (lt := charLt) charLt_connected h1 h2

theorem lt_irrefl (a : Value) : lt a a = false := by
  cases a with
  | null => rfl
  | int n => simp [lt]
  | str s => simp [lt, strLt_irrefl]

theorem lt_trans {a b c : Value} (h1 : lt a b = true) (h2 : lt b c = true) : lt a c = true := by
  cases a <;> cases b <;> cases c <;> simp [lt] at h1 h2 ⊢
  · exact Int32.lt_trans h1 h2
  · exact strLt_trans h1 h2

theorem lt_connected {a b : Value} (h1 : lt a b = false) (h2 : lt b a = false) : a = b := by
  cases a <;> cases b <;> simp [lt] at h1 h2 ⊢
  · exact Int32.le_antisymm h2 h1
  · exact strLt_connected h1 h2

open MsiModel.Pkg

theorem keyLt_eq (a b : List Value) : keyLt a b = lexLt lt a b := by
  induction a generalizing b with
  | nil => cases b <;> rfl
  | cons x xs ih => cases b <;> simp [keyLt, lexLt, ih]

theorem keyLt_irrefl (a : List Value) : keyLt a a = false := by
  rw [keyLt_eq]; exact lexLt_irrefl lt_irrefl a

theorem keyLt_trans {a b c : List Value} (h1 : keyLt a b = true) (h2 : keyLt b c = true) :
    keyLt a c = true := by
  rw [keyLt_eq] at *; exact lexLt_trans (lt := lt) lt_trans lt_connected h1 h2

theorem keyLt_asymm {a b : List Value} (h : keyLt a b = true) : keyLt b a = false := by
  cases hb : keyLt b a with
  | false => rfl
  | true => have := keyLt_trans h hb; rw [keyLt_irrefl] at this; cases this

theorem keyLt_connected {a b : List Value} (h1 : keyLt a b = false) (h2 : keyLt b a = false) : a = b := by
  rw [keyLt_eq] at *; exact lexLt_connected (lt := lt) lt_connected h1 h2

def Sorted (m : List (List Value × List Cell)) : Prop :=
  m.Pairwise fun x y => keyLt x.1 y.1 = true

theorem mapInsert_sorted {k v m m'} (hs : Sorted m) (h : mapInsert k v m = some m') : Sorted m' ∧
    (∀ x, x ∈ m' ↔ x = (k, v) ∨ x ∈ m) := by
  fun_induction mapInsert k v m generalizing m' with
  | case1 =>
    cases h
    exact ⟨by simp [Sorted], by simp⟩
  | case2 k' v' rest hlt =>
    cases h
    obtain ⟨hk', _⟩ := List.pairwise_cons.mp hs
    exact ⟨List.pairwise_cons.mpr ⟨fun y hy => by
      rcases List.mem_cons.mp hy with rfl | hy
      · exact hlt
      · exact keyLt_trans hlt (hk' y hy), hs⟩, by simp⟩
  | case3 k' v' rest hnlt hgt ih =>
    obtain ⟨hk', hrest⟩ := List.pairwise_cons.mp hs
    cases hr : mapInsert k v rest with
    | none => simp [hr] at h
    | some r =>
      simp only [hr, Option.map_some, Option.some.injEq] at h
      subst h
      obtain ⟨hsr, hmem⟩ := ih hrest hr
      exact ⟨List.pairwise_cons.mpr ⟨fun y hy => by
        rcases (hmem y).mp hy with rfl | hy
        · exact hgt
        · exact hk' y hy, hsr⟩, fun x => by simp only [List.mem_cons, hmem, or_left_comm]⟩
  | case4 k' v' rest hnlt hngt => cases h

theorem sorted_keys_distinct {m : List (List Value × List Cell)} (hs : Sorted m) :
    (m.map (·.1)).Pairwise (· ≠ ·) := by
  rw [List.pairwise_map]
  exact hs.imp fun h e => by rw [e, keyLt_irrefl] at h; cases h

theorem mapInsert_none_iff {k v m} (hs : Sorted m) :
    mapInsert k v m = none ↔ mapContains k m = true := by
  fun_induction mapInsert k v m with
  | case1 => simp [mapContains]
  | case2 k' v' rest hlt =>
    obtain ⟨hk', _⟩ := List.pairwise_cons.mp hs
    simp only [mapContains, List.any_cons, hlt, Bool.not_true, Bool.false_and, Bool.false_or, reduceCtorEq,
      false_iff, Bool.not_eq_true, List.any_eq_false]
    intro y hy
    simp [keyLt_trans hlt (hk' y hy)]
  | case3 k' v' rest hnlt hgt ih =>
    obtain ⟨_, hrest⟩ := List.pairwise_cons.mp hs
    have hnlt' : keyLt k k' = false := by simpa using hnlt
    simp only [mapContains, List.any_cons, hnlt', hgt, Bool.not_true, Bool.and_false, Bool.false_or,
      Option.map_eq_none_iff, ih hrest]
  | case4 k' v' rest hnlt hngt =>
    have h1 : keyLt k k' = false := by simpa using hnlt
    have h2 : keyLt k' k = false := by simpa using hngt
    simp [mapContains, h1, h2]

end MsiProofs.Order
