import MsiProofs.Lemmas.DropTable
/-
The remaining mutating calls of the package API — stream writes and removals, signature removal,
summary setters, the database code page — keep every invariant: they touch no table stream and no
pool string.
-/
namespace MsiProofs.OtherCalls
open MsiModel MsiModel.Bytes MsiModel.Pkg MsiModel.StreamName MsiProofs.CatalogSync
open MsiProofs.GlobalInv MsiProofs.SaveOpen MsiProofs.CreateTable MsiProofs.FullHistory

theorem sig_ne_table (tn : List Char) :
    key Gen.snDigitalSignature.toList ≠ key (encode tn true) ∧
    key Gen.snMsiDigitalSignatureEx.toList ≠ key (encode tn true) := by
  have hup := MsiProofs.Synced.map_upper_encoded tn
  constructor <;>
  · intro h
    unfold key at h
    have h2 := (Prod.mk.inj h).2
    rw [hup] at h2
    unfold encode at h2
    simp only [if_true, List.singleton_append] at h2
    have h3 := congrArg List.head? h2
    simp only [List.head?_cons] at h3
    revert h3
    decide

theorem full_transfer (slack : Nat → Nat) (s s' : Pkg) (tabs : List Table) (hF : Full slack s tabs) (hN : NoOrphans s)
    (htabs : s'.tables = s.tables) (hstr : s'.pool.strings = s.pool.strings)
    (hlong : s'.pool.longRefs = s.pool.longRefs)
    (hcont : ∀ tn, dataOf s'.cont (encode tn true) = dataOf s.cont (encode tn true))
    (hmeta : MsiProofs.Synced.Synced s') : Full slack s' tabs ∧ NoOrphans s' := by
  refine ⟨⟨core_transfer slack s s' tabs hF.core htabs hstr hlong
    (fun t _ => loadRows_congr s s' t (hcont t.name)) hmeta, by rw [hlong]; exact hF.hasVal⟩, ?_⟩
  refine ⟨fun x hx => hN.valid x (htabs ▸ hx), ?_⟩
  intro n hv hm hd
  rw [hcont n] at hd
  rw [htabs]
  exact hN.owned n hv hm hd

theorem writeStream_full (slack : Nat → Nat) (s : Pkg) (tabs : List Table) (hF : Full slack s tabs) (hN : NoOrphans s)
    (n : List Char) (d : Bytes) : Full slack (writeStream s n d).1 tabs ∧ NoOrphans (writeStream s n d).1 := by
  have hm := (MsiProofs.Synced.op_step s (.writeStream n d) hF.core.metaSync hF.core.sep).1
  have hm' : MsiProofs.Synced.Synced (writeStream s n d).1 := hm
  cases hv : isValid n false with
  | false => rw [MsiProofs.Exec.writeStream_refused d hv]; exact ⟨hF, hN⟩
  | true =>
    rw [MsiProofs.Exec.writeStream_eq d hv] at hm' ⊢
    exact full_transfer slack s _ tabs hF hN rfl rfl rfl
      (fun tn => dataOf_put_other s.cont _ _ d (MsiProofs.Synced.user_key_ne_table_key n tn hv)) hm'

theorem removeStream_full (slack : Nat → Nat) (s : Pkg) (tabs : List Table) (hF : Full slack s tabs) (hN : NoOrphans s)
    (n : List Char) : Full slack (removeStream s n).1 tabs ∧ NoOrphans (removeStream s n).1 := by
  have hm := (MsiProofs.Synced.op_step s (.removeStream n) hF.core.metaSync hF.core.sep).1
  have hm' : MsiProofs.Synced.Synced (removeStream s n).1 := hm
  by_cases h : isValid n false = true ∧ Cont.exists_ s.cont (encode n false) = true
  · rw [MsiProofs.Exec.removeStream_eq h.1 h.2] at hm' ⊢
    exact full_transfer slack s _ tabs hF hN rfl rfl rfl
      (fun tn => MsiProofs.Synced.dataOf_remove_other s.cont _ _ (MsiProofs.Synced.user_key_ne_table_key n tn h.1)) hm'
  · rw [MsiProofs.Exec.removeStream_refused (by
      cases hv : isValid n false
      · exact Or.inl rfl
      · exact Or.inr (by simpa [hv] using h))]
    exact ⟨hF, hN⟩

theorem dataOf_cond_remove (c : List Entry) (n m : List Char) (h : key n ≠ key m) :
    dataOf (if Cont.exists_ c n = true then Cont.remove c n else c) m = dataOf c m := by
  split
  · exact MsiProofs.Synced.dataOf_remove_other c n m h
  · rfl

theorem removeSignature_full (slack : Nat → Nat) (s : Pkg) (tabs : List Table) (hF : Full slack s tabs) (hN : NoOrphans s) :
    Full slack (removeDigitalSignature s) tabs ∧ NoOrphans (removeDigitalSignature s) := by
  have hm := (MsiProofs.Synced.op_step s .removeSignature hF.core.metaSync hF.core.sep).1
  refine full_transfer slack s _ tabs hF hN rfl rfl rfl ?_ hm
  intro tn
  show dataOf (if Cont.exists_ _ Gen.snMsiDigitalSignatureEx.toList = true then _ else _) _ = _
  rw [dataOf_cond_remove _ _ _ (sig_ne_table tn).2, dataOf_cond_remove _ _ _ (sig_ne_table tn).1]

theorem setSummary_full (slack : Nat → Nat) (s : Pkg) (tabs : List Table) (hF : Full slack s tabs) (hN : NoOrphans s)
    (f : PropSet → PropSet) :
    Full slack { s with finisher := true, summaryModified := true, summary := f s.summary } tabs ∧
    NoOrphans { s with finisher := true, summaryModified := true, summary := f s.summary } :=
  full_transfer slack s _ tabs hF hN rfl rfl rfl (fun _ => rfl)
    (MsiProofs.Synced.op_step s (.setSummary f) hF.core.metaSync hF.core.sep).1

theorem setCodepage_full (slack : Nat → Nat) (s : Pkg) (tabs : List Table) (hF : Full slack s tabs) (hN : NoOrphans s)
    (cp : Nat) :
    Full slack { s with finisher := true, pool := { s.pool with codepage := cp, modified := true } } tabs ∧
    NoOrphans { s with finisher := true, pool := { s.pool with codepage := cp, modified := true } } :=
  full_transfer slack s _ tabs hF hN rfl rfl rfl (fun _ => rfl)
    (MsiProofs.Synced.op_step s (.setCodepage cp) hF.core.metaSync hF.core.sep).1

end MsiProofs.OtherCalls
