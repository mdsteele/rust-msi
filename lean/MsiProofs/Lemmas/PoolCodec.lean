import MsiProofs.Lemmas.Codec
import MsiModel.PkgApi
import MsiProofs.Props.C14
/-
The string pool codec: what `write_pool` / `write_data` write, `read_from_pool` /
`build_from_data` read back — including the long-string escape, and exactly under the
condition the format needs: no *live* entry is the empty string.
-/
namespace MsiProofs.PoolCodec
open MsiModel MsiModel.Bytes MsiModel.Pool MsiProofs.Codec

/-- an entry the format can express: 32-bit length, 16-bit count, and a zero length only
for an unused entry (a live empty string would read as a long-string header) -/
def EntryOk (e : Nat × Nat) : Prop := e.1 < 4294967296 ∧ e.2 < 65536 ∧ (e.1 = 0 → e.2 = 0)

theorem readEntries_encodeEntry (fuel len rc : Nat) (h : EntryOk (len, rc)) (rest : Bytes)
    (acc : List (Nat × Nat)) :
    readEntries (fuel + 1) (encodeEntry len rc ++ rest) acc = readEntries fuel rest ((len, rc) :: acc) := by
  obtain ⟨h1, h2, h3⟩ := h
  simp only at h1 h2 h3
  unfold encodeEntry
  by_cases hbig : len > 65535
  · -- the escape: a zero length word with the high half of the length in the count's place
    have hc : 0 % 65536 = 0 ∧ len / 65536 % 65536 > 0 := ⟨rfl, by omega⟩
    simp only [hbig, if_true, List.append_assoc, readEntries, readU16_u16le, Res.bind_ok, hc, and_self]
    rw [show len / 65536 % 65536 * 65536 + len % 65536 % 65536 = len by omega, Nat.mod_eq_of_lt h2]
  · have hc : ¬ (len % 65536 % 65536 = 0 ∧ rc % 65536 > 0) := fun ⟨a, b⟩ => by
      have := h3 (by omega); omega
    simp only [hbig, if_false, List.nil_append, List.append_assoc, readEntries, readU16_u16le, Res.bind_ok, hc]
    rw [show len % 65536 % 65536 = len by omega, Nat.mod_eq_of_lt h2]

/-- **the pool header loop reads back every entry list the format can express** -/
theorem readEntries_roundtrip (es : List (Nat × Nat)) (h : ∀ e ∈ es, EntryOk e) (fuel : Nat)
    (hf : es.length < fuel) (acc : List (Nat × Nat)) :
    readEntries fuel (es.flatMap fun e => encodeEntry e.1 e.2) acc = .ok (acc.reverse ++ es) := by
  induction es generalizing fuel acc with
  | nil =>
    cases fuel with
    | zero => simp at hf
    | succ k => simp [readEntries, readU16, pure]
  | cons e rest ih =>
    obtain ⟨he, hrest⟩ := List.forall_mem_cons.mp h
    cases fuel with
    | zero => simp at hf
    | succ k =>
      rw [List.flatMap_cons, readEntries_encodeEntry k e.1 e.2 he, ih hrest k (by simpa using hf)]
      simp

/-- the witness of the repaired defect: a live empty string is read as the header of a long string -/
theorem live_empty_entry_misread :
    readEntries 3 (encodeEntry 0 1 ++ encodeEntry 3 2) [] ≠ .ok [(0, 1), (3, 2)] := by decide +kernel

theorem buildStrings_roundtrip (cp : Nat) (items : List (List Char × Bytes × Nat))
    (hdec : ∀ it ∈ items, Codec.decode cp it.2.1 = some it.1) (rest : Bytes)
    (acc : List (List Char × Nat)) :
    buildStrings cp (items.map fun it => (it.2.1.length, it.2.2)) (items.flatMap (·.2.1) ++ rest) acc =
      .ok (acc.reverse ++ items.map fun it => (it.1, it.2.2)) := by
  induction items generalizing acc with
  | nil => simp [buildStrings, pure]
  | cons it more ih =>
    obtain ⟨hit, hmore⟩ := List.forall_mem_cons.mp hdec
    have hre : ∀ tail, readExact it.2.1.length (it.2.1 ++ tail) = .ok (it.2.1, tail) := fun tail => by
      simp [readExact]
    simp only [List.map_cons, List.flatMap_cons, List.append_assoc, buildStrings, hre, Res.bind_ok, hit,
      ih hmore]
    simp

theorem mapM_some_map {α β} (f : α → Option β) (g : α → β) (l : List α) (h : ∀ a ∈ l, f a = some (g a)) :
    l.mapM f = some (l.map g) := by
  induction l with
  | nil => rfl
  | cons a rest ih =>
    obtain ⟨ha, hrest⟩ := List.forall_mem_cons.mp h
    rw [List.mapM_cons, ha, ih hrest]
    rfl

/-- a pool the format can express: a supported code page, every string representable in it
(decoding its encoding gives it back), lengths and counts within their fields, and **no live
entry is the empty string** -/
structure PoolOk (p : Pool) (E : List Char → Bytes) : Prop where
  cp : p.codepage < Gen.cpVariants.length
  enc : ∀ e ∈ p.strings, Codec.encode p.codepage e.1 = some (E e.1)
  dec : ∀ e ∈ p.strings, Codec.decode p.codepage (E e.1) = some e.1
  fits : ∀ e ∈ p.strings, EntryOk ((E e.1).length, e.2)

/-- the header word: the code page identifier in the low 31 bits, the reference width on top -/
theorem header_word {n : Nat} (hn : n < 2147483648) (long : Bool) :
    (if long = true then n + Gen.longStringRefsBit else n) % 4294967296 % Gen.longStringRefsBit = n ∧
    decide ((if long = true then n + Gen.longStringRefsBit else n) % 4294967296 ≥ Gen.longStringRefsBit) =
      long := by
  rw [show Gen.longStringRefsBit = 2147483648 from rfl]
  cases long
  · simp only [Bool.false_eq_true, if_false, decide_eq_false_iff_not]; omega
  · simp only [if_true, decide_eq_true_eq]; omega

theorem length_le_flatMap {α β} (f : α → List β) (hf : ∀ a, 1 ≤ (f a).length) (l : List α) :
    l.length ≤ (l.flatMap f).length := by
  induction l with
  | nil => simp
  | cons a b ih =>
    have := hf a
    simp only [List.flatMap_cons, List.length_append, List.length_cons]
    omega

/-- **string pool round trip**: reading what `write_pool` and `write_data` wrote gives the
pool back (both reference widths, strings of any length incl. > 64 KiB, any entry order,
holes, duplicates) -/
theorem pool_roundtrip (p : Pool) (E : List Char → Bytes) (h : PoolOk p E) :
    ∃ pb db, p.writePool = .ok pb ∧ p.writeData = .ok db ∧
      Pool.read pb db = .ok { p with modified := false } := by
  obtain ⟨n, hid, hn0, hn1, hfrom⟩ := C14.id_fromId_bounded p.codepage h.cp
  have hes : encodedStrings p = some (p.strings.map fun e => (E e.1, e.2)) :=
    mapM_some_map _ _ _ fun e he => by simp only [h.enc e he, Option.map_some]
  obtain ⟨hidn, hlong⟩ := header_word (n := n.toNat) (by omega) p.longRefs
  have hre := readEntries_roundtrip (p.strings.map fun e => ((E e.1).length, e.2))
    (fun e he => by
      obtain ⟨x, hx, rfl⟩ := List.mem_map.mp he
      exact h.fits x hx)
    ((p.strings.flatMap fun e => encodeEntry (E e.1).length e.2).length + 1)
    (by
      have := length_le_flatMap (fun e : List Char × Nat => encodeEntry (E e.1).length e.2)
        (fun e => by simp [encodeEntry, u16le]) p.strings
      simp only [List.length_map]
      omega)
    []
  have hb := buildStrings_roundtrip p.codepage (p.strings.map fun e => (e.1, E e.1, e.2))
    (fun it hit => by
      obtain ⟨x, hx, rfl⟩ := List.mem_map.mp hit
      exact h.dec x hx)
    [] []
  simp only [List.flatMap_map, List.map_map, Function.comp_def, List.append_nil, List.reverse_nil,
    List.nil_append, List.map_id'] at hre hb
  have hwp : p.writePool = .ok (u32le (if p.longRefs = true then n.toNat + Gen.longStringRefsBit else n.toNat) ++
      p.strings.flatMap fun e => encodeEntry (E e.1).length e.2) := by
    simp only [writePool, poolHeader, hid, hes, Res.bind_ok, Res.pure_eq, List.flatMap_map]
  have hwd : p.writeData = .ok (p.strings.flatMap fun e => E e.1) := by
    simp only [writeData, hes, Res.pure_eq, List.flatMap_map]
  refine ⟨_, _, hwp, hwd, ?_⟩
  have hcast : ((n.toNat : Nat) : Int) = n := by omega
  simp only [Pool.read, readU32_u32le, Res.bind_ok, hidn, hcast, hfrom, Res.ofOption, hre, hb, hlong,
    Res.pure_eq]

end MsiProofs.PoolCodec
