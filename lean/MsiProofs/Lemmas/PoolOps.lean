import MsiModel.Pool
import MsiProofs.Lemmas.Basic
/-
What `StringPool::incref` and `decref` do to the list of entries, said once: `incref` rewrites
one entry (a free one, or one holding the string with room in its count) or appends one;
`decref` lowers one count and blanks the text when the count reaches zero.  Every invariant of
the pool (reference counts, texts, sizes) reads its two base facts off these.
-/
namespace MsiProofs.PoolOps
open MsiModel MsiModel.Pool

theorem increfScan_eq_some {s : List Char} : ∀ {l : List (List Char × Nat)} {idx : Nat} {l' : List (List Char × Nat)}
    {r : Nat}, increfScan s l idx = some (l', r) →
    ∃ j e, l[j]? = some e ∧ r = idx + j + 1 ∧
      ((e.2 = 0 ∧ l' = l.set j (s, 1)) ∨ (e.2 ≠ 0 ∧ e.1 = s ∧ e.2 < Gen.maxRefcount ∧ l' = l.set j (s, e.2 + 1)))
  | [], _, _, _, h => nomatch h
  | (st, rc) :: rest, idx, l', r, h => by
    unfold increfScan at h
    by_cases h0 : rc = 0
    · rw [if_pos h0] at h
      cases h
      exact ⟨0, (st, rc), rfl, rfl, Or.inl ⟨h0, rfl⟩⟩
    rw [if_neg h0] at h
    by_cases h1 : st = s ∧ rc < Gen.maxRefcount
    · rw [if_pos h1] at h
      cases h
      exact ⟨0, (st, rc), rfl, rfl, Or.inr ⟨h0, h1.1, h1.2, by rw [h1.1]; rfl⟩⟩
    rw [if_neg h1] at h
    cases hr : increfScan s rest (idx + 1) with
    | none => rw [hr] at h; cases h
    | some x =>
      rw [hr] at h
      cases h
      obtain ⟨j, e, hj, hre, hl⟩ := increfScan_eq_some hr
      refine ⟨j + 1, e, hj, by omega, ?_⟩
      rcases hl with ⟨he, hl⟩ | ⟨he, hs, hm, hl⟩
      · exact Or.inl ⟨he, by rw [hl]; rfl⟩
      · exact Or.inr ⟨he, hs, hm, by rw [hl]; rfl⟩

theorem incref_eq_ok {p : Pool} {s : List Char} {p' : Pool} {r : Nat} (h : p.incref s = .ok (p', r)) :
    (∃ j e, p.strings[j]? = some e ∧ r = j + 1 ∧
      ((e.2 = 0 ∧ p' = { p with strings := p.strings.set j (s, 1), modified := true }) ∨
       (e.2 ≠ 0 ∧ e.1 = s ∧ e.2 < Gen.maxRefcount ∧
         p' = { p with strings := p.strings.set j (s, e.2 + 1), modified := true }))) ∨
    (increfScan s p.strings 0 = none ∧ ¬ (p.strings.length ≥ Gen.maxShortRefStrings ∧ (!p.longRefs) = true) ∧
      p.strings.length < Gen.maxStringRef ∧ r = p.strings.length + 1 ∧
      p' = { p with strings := p.strings ++ [(s, 1)], modified := true }) := by
  unfold incref at h
  cases hs : increfScan s p.strings 0 with
  | some x =>
    rw [hs] at h
    cases h
    obtain ⟨j, e, hj, hr, hl⟩ := increfScan_eq_some hs
    refine Or.inl ⟨j, e, hj, by omega, ?_⟩
    rcases hl with ⟨he, hl⟩ | ⟨he, hst, hm, hl⟩
    · exact Or.inl ⟨he, by rw [hl]⟩
    · exact Or.inr ⟨he, hst, hm, by rw [hl]⟩
  | none =>
    rw [hs] at h
    simp only at h
    split at h; · cases h
    rename_i hshort
    split at h; · cases h
    cases h
    exact Or.inr ⟨rfl, hshort, by omega, rfl, rfl⟩

theorem incref_ne_err (p : Pool) (s : List Char) (k : ErrKind) : p.incref s ≠ .err k := by
  unfold incref
  split
  · exact nofun
  · split; · exact nofun
    split <;> exact nofun

theorem decrefAt_eq_some : ∀ {l : List (List Char × Nat)} {i : Nat} {l' : List (List Char × Nat)},
    decrefAt l i = some l' ↔ ∃ st rc, l[i]? = some (st, rc) ∧ 0 < rc ∧
      l' = l.set i (if rc - 1 = 0 then [] else st, rc - 1)
  | [], _, _ => by simp [decrefAt]
  | (st, rc) :: rest, 0, l' => by
    simp only [decrefAt, List.getElem?_cons_zero, Option.some.injEq, Prod.mk.injEq, List.set_cons_zero]
    constructor
    · intro h
      split at h; · cases h
      cases h
      exact ⟨st, rc, ⟨rfl, rfl⟩, by omega, rfl⟩
    · rintro ⟨_, _, ⟨rfl, rfl⟩, hpos, rfl⟩
      rw [if_neg (by omega)]
  | e :: rest, i + 1, l' => by
    simp only [decrefAt, Option.map_eq_some_iff, List.getElem?_cons_succ, List.set_cons_succ]
    constructor
    · rintro ⟨m, hm, rfl⟩
      obtain ⟨st, rc, h1, h2, rfl⟩ := decrefAt_eq_some.mp hm
      exact ⟨st, rc, h1, h2, rfl⟩
    · rintro ⟨st, rc, h1, h2, rfl⟩
      exact ⟨_, decrefAt_eq_some.mpr ⟨st, rc, h1, h2, rfl⟩, rfl⟩

theorem decref_eq (p : Pool) (r : Nat) :
    (∃ st rc, p.strings[r - 1]? = some (st, rc) ∧ 0 < rc ∧
      p.decref r = { p with strings := p.strings.set (r - 1) (if rc - 1 = 0 then [] else st, rc - 1), modified := true }) ∨
    (decrefAt p.strings (r - 1) = none ∧ p.decref r = p) := by
  unfold decref
  cases h : decrefAt p.strings (r - 1) with
  | none => exact Or.inr ⟨rfl, rfl⟩
  | some l' =>
    obtain ⟨st, rc, h1, h2, rfl⟩ := decrefAt_eq_some.mp h
    exact Or.inl ⟨st, rc, h1, h2, rfl⟩

theorem decref_length (p : Pool) (r : Nat) : (p.decref r).strings.length = p.strings.length := by
  rcases decref_eq p r with ⟨st, rc, -, -, h⟩ | ⟨-, h⟩ <;> rw [h]
  exact List.length_set

end MsiProofs.PoolOps
