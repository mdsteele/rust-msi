import MsiProofs.Lemmas.Lifecycle
import MsiProofs.Lemmas.Loops
import MsiProofs.Lemmas.Exec
import MsiProofs.Lemmas.PoolOps
/-
What the string pool can hold, as an invariant: if every string handed to the library satisfies a
predicate `A` (e.g. "the code page encodes it and decodes it back"), every entry of the pool
satisfies `A`, has a count below 65,536, and is empty only when unreferenced — which is what a
save needs of the pool (`PoolOk`).
-/
namespace MsiProofs.PoolText
open MsiModel MsiModel.Bytes MsiModel.Pkg

section
variable (C : Nat → Prop) (A : List Char → Prop)

def EntryT (e : List Char × Nat) : Prop := A e.1 ∧ e.2 < 65536 ∧ (e.1 = [] → e.2 = 0)
/-- the pool is fit to be written: a code page satisfying `C` (e.g. "supported", or "UTF-8"), every entry fit -/
def PT (p : Pool) : Prop := C p.codepage ∧ ∀ e ∈ p.strings, EntryT A e

theorem set_fit {l : List (List Char × Nat)} (hl : ∀ e ∈ l, EntryT A e) {j : Nat} {x : List Char × Nat}
    (hx : EntryT A x) : ∀ e ∈ l.set j x, EntryT A e :=
  fun e he => (List.mem_or_eq_of_mem_set he).elim (hl e) fun e0 => e0 ▸ hx

theorem incref_pt (p : Pool) (s : List Char) (hs : A s) (hne : s ≠ []) (p' : Pool) (r : Nat)
    (h : p.incref s = .ok (p', r)) (hp : PT C A p) : PT C A p' := by
  have hm : Gen.maxRefcount = 65535 := rfl
  rcases MsiProofs.PoolOps.incref_eq_ok h with ⟨j, e, -, -, ⟨-, rfl⟩ | ⟨-, -, hlt, rfl⟩⟩ | ⟨-, -, -, -, rfl⟩
  · exact ⟨hp.1, set_fit A hp.2 ⟨hs, by omega, fun e0 => absurd e0 hne⟩⟩
  · exact ⟨hp.1, set_fit A hp.2 ⟨hs, by omega, fun e0 => absurd e0 hne⟩⟩
  · refine ⟨hp.1, fun e he => ?_⟩
    rcases List.mem_append.mp he with he | he
    · exact hp.2 e he
    · cases List.mem_singleton.mp he
      exact ⟨hs, by omega, fun e0 => absurd e0 hne⟩

theorem decref_pt (h0 : A []) (p : Pool) (r : Nat) (hp : PT C A p) : PT C A (p.decref r) := by
  rcases MsiProofs.PoolOps.decref_eq p r with ⟨st, rc, hi, hpos, e⟩ | ⟨-, e⟩ <;> rw [e]
  · obtain ⟨ha, hb, hc⟩ := hp.2 _ (List.mem_of_getElem? hi)
    refine ⟨hp.1, set_fit A hp.2 ?_⟩
    by_cases hz : rc - 1 = 0
    · rw [if_pos hz, hz]; exact ⟨h0, by omega, fun _ => rfl⟩
    · rw [if_neg hz]; exact ⟨ha, Nat.lt_of_le_of_lt (Nat.sub_le rc 1) hb, fun e0 => absurd (hc e0) (by omega)⟩
  · exact hp

/-- a value as the caller hands it over: its text satisfies `A` -/
def ValA : Value → Prop
  | .str s => A s
  | _ => True

def RowsA (rows : List (List Value)) : Prop := ∀ r ∈ rows, ∀ v ∈ r, ValA A v

theorem RowsA.mono {A B : List Char → Prop} (hAB : ∀ s, A s → B s) {rows : List (List Value)}
    (h : RowsA A rows) : RowsA B rows := by
  intro r hr v hv
  cases v with
  | str s => exact hAB s (h r hr _ hv)
  | _ => trivial

/-- what reaches the pool has been through `storable`: it satisfies `A` and is not "" -/
def Stored (s : List Char) : Prop := A s ∧ s ≠ []

theorem stored_of_storable {v : Value} (h : ValA A v) {s : List Char} (e : storable v = .str s) : Stored A s := by
  cases v with
  | null => cases e
  | int n => cases e
  | str x =>
    cases x with
    | nil => cases e
    | cons c cs => cases e; exact ⟨h, List.cons_ne_nil c cs⟩

theorem strsIn_storable {r : List Value} (h : ∀ v ∈ r, ValA A v) : Loops.StrsIn (Stored A) (r.map storable) := by
  intro s hs
  obtain ⟨v, hv, e⟩ := List.mem_map.mp hs
  exact stored_of_storable A (h v hv) e

theorem pt_rel (h0 : A []) : Loops.PoolRel (Stored A) (fun p p' => PT C A p → PT C A p') where
  refl := fun _ h => h
  trans := fun h1 h2 h => h2 (h1 h)
  incref := fun p s p' r hs hi => incref_pt C A p s hs.1 hs.2 p' r hi
  decref := fun p r => decref_pt C A h0 p r

theorem onTable_pt {s : Pkg} {tn : List Char} {plan : Table → Res (Pool × List (List Cell))}
    (hplan : ∀ t pool' out, plan t = .ok (pool', out) → PT C A s.pool → PT C A pool') (hp : PT C A s.pool) :
    PT C A (Exec.onTable s tn plan).1.pool := by
  rcases Exec.onTable_stored s tn plan with h | ⟨t, pool', out, -, hpl, h⟩ <;> rw [h]
  · exact hp
  · rcases Exec.storeRows_fst { s with pool := pool' } t out with e | ⟨bs, e⟩ <;> rw [e] <;>
      exact hplan t pool' out hpl hp

theorem insertExec_pt (h0 : A []) (s : Pkg) (tname : List Char) (rows : List (List Value))
    (hrows : RowsA A rows) (hp : PT C A s.pool) : PT C A (insertExec s tname rows).1.pool := by
  rw [Exec.insertExec_eq]
  refine onTable_pt C A (fun t pool' out h => ?_) hp
  obtain ⟨existing, m, m', -, -, -, -, -, -, ha, -⟩ := Exec.insertPlan_ok.mp h
  refine Loops.addRows_rel (pt_rel C A h0) _ _ (fun r hr => ?_) ha
  obtain ⟨r0, hr0, rfl⟩ := List.mem_map.mp hr
  exact strsIn_storable A (hrows r0 hr0)

theorem deleteExec_pt (h0 : A []) (s : Pkg) (tname : List Char) (cond : Option Ast) (hp : PT C A s.pool) :
    PT C A (deleteExec s tname cond).1.pool := by
  rw [Exec.deleteExec_eq]
  refine onTable_pt C A (fun t pool' out h => ?_) hp
  obtain ⟨rows, -, -, hd⟩ := Exec.deletePlan_ok.mp h
  exact Loops.deleteGo_rel (pt_rel C A h0) t cond rows hd

theorem updateExec_pt (h0 : A []) (s : Pkg) (tname : List Char) (ups : List (List Char × Value)) (cond : Option Ast)
    (hups : ∀ u ∈ ups, ValA A u.2) (hp : PT C A s.pool) : PT C A (updateExec s tname ups cond).1.pool := by
  rw [Exec.updateExec_eq]
  refine onTable_pt C A (fun t pool' out h => ?_) hp
  obtain ⟨rows, planned, rows', -, -, -, -, -, ha, -⟩ := Exec.updatePlan_ok.mp h
  refine Loops.updApply_rel (pt_rel C A h0) _ (fun u hu s e => ?_) rows ha
  obtain ⟨x, hx, hxu⟩ := List.mem_filterMap.mp hu
  obtain ⟨i, -, rfl⟩ := Option.map_eq_some_iff.mp hxu
  exact stored_of_storable A (hups x hx) e

theorem insertRows_pt (h0 : A []) (s : Pkg) (tn : List Char) (rows : List (List Value)) (hr : RowsA A rows)
    (hp : PT C A s.pool) : PT C A (insertRows s tn rows).1.pool :=
  insertExec_pt C A h0 { s with finisher := true } tn rows hr hp

theorem deleteRows_pt (h0 : A []) (s : Pkg) (tn : List Char) (cond : Option Ast) (hp : PT C A s.pool) :
    PT C A (deleteRows s tn cond).1.pool :=
  deleteExec_pt C A h0 { s with finisher := true } tn cond hp

theorem createTable_pt (h0 : A []) (s : Pkg) (name : List Char) (cols : List Column)
    (h1 : RowsA A (catalogRowsColumns name cols)) (h2 : RowsA A [[.str name]])
    (h3 : RowsA A (catalogRowsValidation name cols)) (hp : PT C A s.pool) :
    PT C A (createTable s name cols).1.pool :=
  Exec.createTable_keeps_rows (P := fun s => PT C A s.pool) (fun s tn rows => insertRows_pt C A h0 s tn rows) s
    (fun _ _ _ h => h) h1 h2 h3 hp

theorem dropTable_pt (h0 : A []) (s : Pkg) (name : List Char) (hp : PT C A s.pool) :
    PT C A (dropTable s name).1.pool := by
  refine Exec.dropTable_keeps (P := fun s => PT C A s.pool) name (fun s t _ hp => ?_)
    (fun s tn c => deleteRows_pt C A h0 s tn c) (fun _ h => h) s hp
  unfold Exec.dropStream
  split
  · cases s.loadRows t with
    | err k => exact hp
    | panic w => exact hp
    | ok rows =>
      show PT C A (rows.foldl (fun p r => r.foldl Cell.remove p) s.pool)
      rw [MsiProofs.DropTable.foldl_rows]
      exact Loops.foldl_remove_rel (pt_rel C A h0) _ _ hp
  · exact hp

end
end MsiProofs.PoolText
