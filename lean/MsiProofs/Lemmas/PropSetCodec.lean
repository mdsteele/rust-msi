import MsiModel.PropSet
import MsiProofs.Lemmas.Codec
/-
Property-set codec: what `PropertySet::write` writes, `PropertySet::read` reads back.  Here the
values and what the writer lays out; the round trip of a whole property set follows in
`PropSetLayout` from the reader's behaviour on any layout.
-/
namespace MsiProofs.PropSetCodec
open MsiModel MsiModel.Bytes MsiProofs.Codec

/-- values the format can hold: integers in the range of their type; a string is one the code
page encodes and decodes back (`Codec.encode`/`decode`: the parameter standing for
`encoding_rs`), short enough for a 32-bit length -/
def ValOk (cp : Nat) : PropVal → Prop
  | .empty => True
  | .null => True
  | .i1 n => -128 ≤ n ∧ n ≤ 127
  | .i2 n => -32768 ≤ n ∧ n ≤ 32767
  | .i4 n => -2147483648 ≤ n ∧ n ≤ 2147483647
  | .fileTime t => t < 18446744073709551616
  | .lpstr s => ∃ bs, Codec.encode cp s = some bs ∧ Codec.decode cp bs = some s ∧ bs.length + 1 < 4294967296

theorem C10len.u32 (n : Nat) : (u32le n).length = 4 := rfl
theorem readU8_cons (b : UInt8) (rest : Bytes) : readU8 (b :: rest) = .ok (b.toNat, rest) := rfl

@[simp] theorem readU64_u64le (n : Nat) (rest : Bytes) :
    readU64 (u64le n ++ rest) = .ok (n % 18446744073709551616, rest) := by
  simp only [readU64, u64le, List.append_assoc, readU32_u32le, Res.bind_ok, Res.pure_eq, Nat.mod_mod]
  rw [show (18446744073709551616 : Nat) = 4294967296 * 4294967296 from rfl, Nat.mod_mul]

theorem readBytes_spec (bs : Bytes) : ∀ (rest acc : Bytes),
    PropVal.readBytesOneByOne bs.length (bs ++ rest) acc = .ok (acc.reverse ++ bs, rest) := by
  induction bs with
  | nil => intro rest acc; simp [PropVal.readBytesOneByOne]
  | cons b bs ih =>
    intro rest acc
    simp only [List.length_cons, List.cons_append, PropVal.readBytesOneByOne]
    rw [ih]
    simp

/-- two's complement: a value in `[-M, M)` is stored as its residue modulo `N = 2 M`, and the
residue read as signed is the value -/
theorem wrap_signed {M N : Nat} (hN : N = 2 * M) {n : Int} (h1 : -(M : Int) ≤ n) (h2 : n < M) :
    (n % (N : Int)).toNat < N ∧
      (if (n % (N : Int)).toNat < M then ((n % (N : Int)).toNat : Int) else ((n % (N : Int)).toNat : Int) - N) = n := by
  subst hN
  by_cases hn : 0 ≤ n
  · rw [Int.emod_eq_of_lt hn (by omega), if_pos (by omega)]
    omega
  · rw [← Int.add_emod_right, Int.emod_eq_of_lt (by omega) (by omega), if_neg (by omega)]
    omega

/-- **value round trip**: reading what was written for a value the format can hold gives the
value back, whatever follows it -/
theorem val_roundtrip (cp : Nat) (v : PropVal) (hv : ValOk cp v) (bs : Bytes) (hw : v.write cp = .ok bs)
    (rest : Bytes) : PropVal.read cp (bs ++ rest) = .ok v := by
  cases v with
  | empty => cases hw; simp [PropVal.read]
  | null => cases hw; simp [PropVal.read]
  | i2 n =>
    cases hw
    obtain ⟨hlt, hval⟩ := wrap_signed (M := 32768) (N := 65536) rfl hv.1 (by have := hv.2; omega)
    simp only [Int.cast_ofNat_Int] at hlt hval
    simp only [PropVal.read, List.append_assoc, readU32_u32le, readU16_u16le, Res.bind_ok, Res.pure_eq,
      ofI16, toI16, Nat.mod_eq_of_lt hlt, hval, Nat.reduceMod, Nat.reduceEqDiff, if_true, if_false]
  | i4 n =>
    cases hw
    obtain ⟨hlt, hval⟩ := wrap_signed (M := 2147483648) (N := 4294967296) rfl hv.1 (by have := hv.2; omega)
    simp only [Int.cast_ofNat_Int] at hlt hval
    simp only [PropVal.read, List.append_assoc, readU32_u32le, Res.bind_ok, Res.pure_eq, ofI32, toI32,
      Nat.mod_eq_of_lt hlt, hval, Nat.reduceMod, Nat.reduceEqDiff, if_true, if_false]
  | i1 n =>
    cases hw
    obtain ⟨hlt, hval⟩ := wrap_signed (M := 128) (N := 256) rfl hv.1 (by have := hv.2; omega)
    simp only [Int.cast_ofNat_Int] at hlt hval
    simp only [PropVal.read, List.append_assoc, List.cons_append, readU32_u32le, readU8_cons, Res.bind_ok,
      Res.pure_eq, UInt8.toNat_ofNat_of_lt' hlt, hval, Nat.reduceMod, Nat.reduceEqDiff, if_true, if_false]
  | fileTime t =>
    cases hw
    have hv : t < 18446744073709551616 := hv
    simp [PropVal.read, Nat.mod_eq_of_lt hv]
  | lpstr s =>
    obtain ⟨enc, he, hd, hl⟩ := hv
    simp only [PropVal.write, he] at hw
    cases hw
    simp only [PropVal.read, List.append_assoc, readU32_u32le, Res.bind_ok, Nat.mod_eq_of_lt hl,
      Nat.add_sub_cancel, Nat.reduceMod, Nat.reduceEqDiff, if_false, if_true, Nat.add_one_ne_zero,
      readBytes_spec enc, List.reverse_nil, List.nil_append, List.cons_append, readU8_cons, hd, Res.pure_eq]
    rfl

/-! ### the writer, characterised -/

/-- the bytes written for each value, in order -/
inductive Written (cp : Nat) : List (Nat × PropVal) → List Bytes → Prop
  | nil : Written cp [] []
  | cons {k : Nat} {v : PropVal} {b : Bytes} {rest : List (Nat × PropVal)} {bs : List Bytes} :
      v.write cp = .ok b → Written cp rest bs → Written cp ((k, v) :: rest) (b :: bs)

theorem written_exists (cp : Nat) (props : List (Nat × PropVal)) (h : ∀ kv ∈ props, ValOk cp kv.2) :
    ∃ vbs, Written cp props vbs := by
  induction props with
  | nil => exact ⟨[], .nil⟩
  | cons kv rest ih =>
    obtain ⟨k, v⟩ := kv
    obtain ⟨hv, hrest⟩ := List.forall_mem_cons.mp h
    obtain ⟨bs, hbs⟩ := ih hrest
    have : ∃ b, v.write cp = .ok b := by
      cases v with
      | lpstr s =>
        obtain ⟨enc, he, -, -⟩ := hv
        exact ⟨_, by simp only [PropVal.write, he]; rfl⟩
      | _ => exact ⟨_, rfl⟩
    obtain ⟨b, hb⟩ := this
    exact ⟨b :: bs, .cons hb hbs⟩

theorem written_length {cp : Nat} {props : List (Nat × PropVal)} {vbs : List Bytes} (h : Written cp props vbs) :
    props.length = vbs.length := by
  induction h with
  | nil => rfl
  | cons _ _ ih => simp [ih]

theorem values_spec (p : PropSet) (props : List (Nat × PropVal)) (vbs : List Bytes)
    (h : Written p.codepage props vbs) : ∀ acc, PropSet.write.values p props acc = .ok (acc ++ vbs.flatten) := by
  induction h with
  | nil => intro acc; simp [PropSet.write.values, pure]
  | cons hb _ ih =>
    intro acc
    simp only [PropSet.write.values, hb, Res.bind_ok, ih, List.flatten_cons, List.append_assoc]

/-- offsets of consecutive values starting at `size` -/
def offsFrom : Nat → List Bytes → List Nat
  | _, [] => []
  | size, b :: bs => size :: offsFrom (size + b.length) bs

def total : List Bytes → Nat
  | [] => 0
  | b :: bs => b.length + total bs

theorem total_eq_flatten (vbs : List Bytes) : total vbs = vbs.flatten.length := by
  induction vbs with
  | nil => rfl
  | cons b bs ih => simp [total, ih]

/-- each value is written in exactly `size` bytes, a multiple of four — with the *encoded*
length of strings -/
theorem value_size_aligned (cp : Nat) (v : PropVal) (bs : Bytes) (h : v.write cp = .ok bs) :
    v.size cp = .ok bs.length ∧ bs.length % 4 = 0 := by
  cases v with
  | lpstr s =>
    simp only [PropVal.write] at h
    cases he : Codec.encode cp s with
    | none => simp [he] at h
    | some enc =>
      simp only [he] at h
      cases h
      simp only [PropVal.size, he, List.length_append, C10len.u32, List.length_cons, List.length_nil,
        List.length_replicate]
      -- tag, length word, text, terminator and padding make up the next multiple of four
      have e : 4 + 4 + enc.length + (0 + 1) + ((enc.length + 1 + 3) / 4 * 4 - (enc.length + 1)) =
          (12 + enc.length) / 4 * 4 := by omega
      rw [e]
      exact ⟨rfl, Nat.mul_mod_left _ _⟩
  | _ => cases h; exact ⟨rfl, by simp only [List.length_append, List.length_cons, List.length_nil, u16le, u32le, u64le]⟩

theorem offsets_spec (p : PropSet) (props : List (Nat × PropVal)) (vbs : List Bytes)
    (h : Written p.codepage props vbs) : ∀ size acc, size + total vbs < 4294967296 →
      PropSet.write.offsets p props size acc = .ok (acc.reverse ++ offsFrom size vbs, size + total vbs) := by
  induction h with
  | nil => intro size acc _; simp [PropSet.write.offsets, pure, offsFrom, total]
  | @cons k v b rest bs hb _ ih =>
    intro size acc hlt
    simp only [total] at hlt
    simp only [PropSet.write.offsets, (value_size_aligned _ _ _ hb).1, Res.bind_ok,
      Nat.mod_eq_of_lt (show size + b.length < 4294967296 by omega), ih (size + b.length) (size :: acc) (by omega)]
    simp [offsFrom, total, Nat.add_assoc]

theorem offsFrom_length (size : Nat) (vbs : List Bytes) : (offsFrom size vbs).length = vbs.length := by
  induction vbs generalizing size with
  | nil => rfl
  | cons b bs ih => simp [offsFrom, ih]

theorem offsFrom_lt (vbs : List Bytes) : ∀ size, size + total vbs < 4294967296 →
    ∀ o ∈ offsFrom size vbs, o < 4294967296 := by
  induction vbs with
  | nil => intro size _ o ho; simp [offsFrom] at ho
  | cons b bs ih =>
    intro size h o ho
    simp only [offsFrom, List.mem_cons] at ho
    simp only [total] at h
    rcases ho with rfl | ho
    · omega
    · exact ih (size + b.length) (by omega) o ho


/-! ### the reader on what the writer wrote -/

theorem seekTo_append (a b : Bytes) : PropSet.seekTo (a ++ b) a.length = .ok b := by
  unfold PropSet.seekTo
  have : ¬ a.length > (a ++ b).length := by simp
  simp only [this, if_false, List.drop_left]

theorem write_cp_irrelevant (cp cp' : Nat) (n : Int) : (PropVal.i2 n).write cp = (PropVal.i2 n).write cp' := rfl

/-- a value that begins where the prefix `pre` (the header's 48 bytes included) ends is found at
its offset relative to the section -/
theorem seekTo_value {data pre tail : Bytes} (hdata : data = pre ++ tail) (hpre : 48 ≤ pre.length) :
    PropSet.seekTo data (48 + (pre.length - 48)) = .ok tail := by
  rw [Nat.add_sub_cancel' hpre, hdata]
  exact seekTo_append pre tail

theorem readVals_spec (data : Bytes) (cp ver : Nat) (props : List (Nat × PropVal)) (vbs : List Bytes)
    (h : Written cp props vbs) : ∀ (pre : Bytes) (acc : List (Nat × PropVal)),
    (∀ kv ∈ props, ValOk cp kv.2) → (∀ kv ∈ props, kv.2.minVersion ≤ ver) →
    data = pre ++ vbs.flatten → 48 ≤ pre.length →
    PropSet.readVals data ver 48 cp ((props.map (·.1)).zip (offsFrom (pre.length - 48) vbs)) acc
      = .ok (acc.reverse ++ props) := by
  induction h with
  | nil => intro pre acc _ _ _ _; simp [PropSet.readVals, offsFrom, pure]
  | @cons k v b rest bs hb _ ih =>
    intro pre acc hok hver hdata hpre
    obtain ⟨hv, hok'⟩ := List.forall_mem_cons.mp hok
    obtain ⟨hvv, hver'⟩ := List.forall_mem_cons.mp hver
    have := ih (pre ++ b) ((k, v) :: acc) hok' hver' (by rw [hdata]; simp) (by simp; omega)
    rw [show (pre ++ b).length - 48 = pre.length - 48 + b.length by simp; omega] at this
    simp only [List.map_cons, offsFrom, List.zip_cons_cons, PropSet.readVals, seekTo_value hdata hpre,
      List.flatten_cons, Res.bind_ok, val_roundtrip cp v hv b hb, if_neg (Nat.not_lt.mpr hvv), this]
    simp

/-- property 1, when present, is a 16-bit integer naming the code page in use; when absent the
page is the default -/
def CpConsistent (props : List (Nat × PropVal)) (cpc : Nat) : Prop :=
  match props.find? (fun kv => kv.1 == Gen.propCodepage) with
  | some (_, .i2 n) => CodePage.fromId ((ofI16 n : Nat) : Int) = some cpc
  | some _ => False
  | none => cpc = Gen.cpDefault

theorem readCodepage_spec (data : Bytes) (cp cpc : Nat) (props : List (Nat × PropVal)) (vbs : List Bytes)
    (h : Written cp props vbs) : ∀ (pre : Bytes),
    (∀ kv ∈ props, ValOk cp kv.2) → CpConsistent props cpc →
    data = pre ++ vbs.flatten → 48 ≤ pre.length →
    PropSet.readCodepage data 48 ((props.map (·.1)).zip (offsFrom (pre.length - 48) vbs)) = .ok cpc := by
  induction h with
  | nil =>
    intro pre _ hc _ _
    simp only [CpConsistent, List.find?_nil] at hc
    simp [PropSet.readCodepage, offsFrom, pure, hc]
  | @cons k v b rest bs hb _ ih =>
    intro pre hok hc hdata hpre
    obtain ⟨hv, hok'⟩ := List.forall_mem_cons.mp hok
    simp only [List.map_cons, offsFrom, List.zip_cons_cons, PropSet.readCodepage, List.find?_cons]
    simp only [CpConsistent, List.find?_cons] at hc
    by_cases hk : (k == Gen.propCodepage) = true
    · simp only [hk] at hc ⊢
      cases v with
      | i2 n =>
        have hv : ValOk Gen.cpDefault (.i2 n) := hv
        simp only [seekTo_value hdata hpre, List.flatten_cons, Res.bind_ok,
          val_roundtrip Gen.cpDefault (.i2 n) hv b hb, hc, Res.ofOption]
      | _ => exact hc.elim
    · have hkf : (k == Gen.propCodepage) = false := by simpa using hk
      simp only [hkf] at hc ⊢
      have := ih (pre ++ b) hok' hc (by rw [hdata]; simp) (by simp; omega)
      rw [show (pre ++ b).length - 48 = pre.length - 48 + b.length by simp; omega] at this
      simpa [PropSet.readCodepage] using this

theorem foldl_max_le_iff (l : List Nat) : ∀ a b, l.foldl max a ≤ b ↔ a ≤ b ∧ ∀ x ∈ l, x ≤ b := by
  induction l with
  | nil => intro a b; simp
  | cons y l ih =>
    intro a b
    rw [List.foldl_cons, ih, List.forall_mem_cons, Nat.max_le, and_assoc]

theorem table_length (props : List (Nat × PropVal)) : ∀ (offs : List Nat), props.length = offs.length →
    ((props.zip offs).flatMap fun x => u32le x.1.1 ++ u32le x.2).length = 8 * props.length := by
  induction props with
  | nil => intro offs _; simp
  | cons kv props ih =>
    intro offs hl
    cases offs with
    | nil => simp at hl
    | cons o offs =>
      simp only [List.zip_cons_cons, List.flatMap_cons, List.length_append, C10len.u32, List.length_cons]
      rw [ih offs (by simpa using hl)]
      omega

/-- property sets that survive a save -/
structure WF (p : PropSet) : Prop where
  os : p.os ≤ 2
  osVersion : p.osVersion < 65536
  clsid : p.clsid.length = 16
  fmtid : p.fmtid.length = 16
  asc : (p.props.map (·.1)).Pairwise (· < ·)
  ids : ∀ kv ∈ p.props, kv.1 < 4294967296
  vals : ∀ kv ∈ p.props, ValOk p.codepage kv.2
  cp : CpConsistent p.props p.codepage
  size : ∀ vbs, Written p.codepage p.props vbs → 8 + 8 * p.props.length + total vbs < 4294967296

theorem readExact_append (a b : Bytes) (n : Nat) (h : a.length = n) : readExact n (a ++ b) = .ok (a, b) := by
  subst h
  simp [readExact]

end MsiProofs.PropSetCodec
