import MsiProofs.Lemmas.PropSetCodec
import MsiProofs.Lemmas.Basic
/-
The property-set READER on any layout (property C02: files written by other implementations).
The library's own writer stores the offset table in ascending id order, the values in the same
order right behind the table, the section right behind the header.  Other writers need not.  Here
the reader is characterised for ANY byte string whose header, section head and offset table are
where the format says -- the table entries in any order, the values anywhere in the stream, any
gaps: the result is the properties sorted by id, each read at its own offset; and it does not
depend on the order of the table.
-/
namespace MsiProofs.PropSetLayout
open MsiModel MsiModel.Bytes MsiProofs.Codec MsiProofs.PropSetCodec

/-- the table as the reader assembles it: entries inserted one by one into an id-sorted list -/
def sortEnts (ents : List (Nat × Nat)) : List (Nat × Nat) :=
  ents.foldl (fun acc e => PropSet.insertSortedNat e.1 e.2 acc) []

def tableBytes (ents : List (Nat × Nat)) : Bytes := ents.flatMap fun e => u32le e.1 ++ u32le e.2

theorem insertSortedNat_perm (k v : Nat) (acc : List (Nat × Nat)) :
    (PropSet.insertSortedNat k v acc).Perm ((k, v) :: acc) := by
  induction acc with
  | nil => exact .refl _
  | cons a r ih =>
    unfold PropSet.insertSortedNat
    split
    · exact .refl _
    · exact (ih.cons a).trans (.swap _ _ _)

theorem insertSortedNat_sorted (k v : Nat) (acc : List (Nat × Nat)) (h : acc.Pairwise (·.1 < ·.1))
    (hk : ∀ a ∈ acc, a.1 ≠ k) : (PropSet.insertSortedNat k v acc).Pairwise (·.1 < ·.1) := by
  induction acc with
  | nil => simp [PropSet.insertSortedNat]
  | cons a rest ih =>
    obtain ⟨ha, hrest⟩ := List.pairwise_cons.mp h
    obtain ⟨hak, hk'⟩ := List.forall_mem_cons.mp hk
    unfold PropSet.insertSortedNat
    split
    · rename_i hlt
      exact List.pairwise_cons.mpr ⟨fun b hb => by
        rcases List.mem_cons.mp hb with rfl | hb
        · exact hlt
        · exact Nat.lt_trans hlt (ha b hb), h⟩
    · refine List.pairwise_cons.mpr ⟨fun b hb => ?_, ih hrest hk'⟩
      rcases List.mem_cons.mp ((insertSortedNat_perm k v rest).mem_iff.mp hb) with rfl | hb
      · show a.1 < k
        omega
      · exact ha b hb

theorem insert_append_perm (e : Nat × Nat) (acc rest : List (Nat × Nat)) :
    (PropSet.insertSortedNat e.1 e.2 acc ++ rest).Perm (acc ++ e :: rest) :=
  ((insertSortedNat_perm e.1 e.2 acc).append_right rest).trans List.perm_middle.symm

theorem foldl_perm (ents : List (Nat × Nat)) : ∀ acc : List (Nat × Nat),
    (ents.foldl (fun acc e => PropSet.insertSortedNat e.1 e.2 acc) acc).Perm (acc ++ ents) := by
  induction ents with
  | nil => intro acc; simp
  | cons e rest ih =>
    intro acc
    exact (ih _).trans (insert_append_perm e acc rest)

theorem foldl_sorted (ents : List (Nat × Nat)) : ∀ acc : List (Nat × Nat),
    acc.Pairwise (·.1 < ·.1) → ((acc ++ ents).map (·.1)).Nodup →
    (ents.foldl (fun acc e => PropSet.insertSortedNat e.1 e.2 acc) acc).Pairwise (·.1 < ·.1) := by
  induction ents with
  | nil => intro acc h _; exact h
  | cons e rest ih =>
    intro acc h hnd
    have hk : ∀ a ∈ acc, a.1 ≠ e.1 := fun a ha heq => by
      rw [List.map_append, List.nodup_append] at hnd
      exact hnd.2.2 a.1 (List.mem_map.mpr ⟨a, ha, rfl⟩) e.1 (by simp) heq
    refine ih _ (insertSortedNat_sorted e.1 e.2 acc h hk) ?_
    exact ((insert_append_perm e acc rest).map _).nodup_iff.mpr hnd

theorem sortEnts_perm_self (ents : List (Nat × Nat)) : (sortEnts ents).Perm ents := by
  simpa [sortEnts] using foldl_perm ents []

theorem sortEnts_spec (ents : List (Nat × Nat)) (hnd : (ents.map (·.1)).Nodup) :
    ((sortEnts ents).map (·.1)).Pairwise (· < ·) ∧ ∀ x, x ∈ sortEnts ents ↔ x ∈ ents :=
  ⟨List.pairwise_map.mpr (foldl_sorted ents [] .nil (by simpa using hnd)), fun _ => (sortEnts_perm_self ents).mem_iff⟩

theorem eq_of_sorted_perm {a b : List (Nat × Nat)} (ha : a.Pairwise (·.1 < ·.1)) (hb : b.Pairwise (·.1 < ·.1))
    (hp : a.Perm b) : a = b :=
  hp.eq_of_pairwise (le := (·.1 < ·.1)) (fun _ _ _ _ h1 h2 => absurd h1 (Nat.lt_asymm h2)) ha hb

/-- **the order of the offset table does not matter** -/
theorem sortEnts_perm (a b : List (Nat × Nat)) (hnd : (a.map (·.1)).Nodup) (hp : a.Perm b) :
    sortEnts a = sortEnts b :=
  eq_of_sorted_perm (foldl_sorted a [] .nil (by simpa using hnd))
    (foldl_sorted b [] .nil (by simpa using (hp.map _).nodup_iff.mp hnd))
    ((sortEnts_perm_self a).trans (hp.trans (sortEnts_perm_self b).symm))

theorem readOffsets_any (ents : List (Nat × Nat)) : ∀ (rest : Bytes) (acc : List (Nat × Nat)),
    ((acc ++ ents).map (·.1)).Nodup → (∀ e ∈ ents, e.1 < 4294967296 ∧ e.2 < 4294967296) →
    PropSet.readOffsets ents.length (tableBytes ents ++ rest) acc =
      .ok (ents.foldl (fun acc e => PropSet.insertSortedNat e.1 e.2 acc) acc) := by
  induction ents with
  | nil => intro rest acc _ _; simp [PropSet.readOffsets, pure, tableBytes]
  | cons e ents ih =>
    intro rest acc hnd hb
    obtain ⟨he, hb'⟩ := List.forall_mem_cons.mp hb
    have hany : acc.any (fun x => x.1 == e.1) = false := by
      rw [List.any_eq_false]
      intro a ha
      rw [List.map_append, List.nodup_append] at hnd
      simpa using hnd.2.2 a.1 (List.mem_map.mpr ⟨a, ha, rfl⟩) e.1 (by simp)
    have hnd' : ((PropSet.insertSortedNat e.1 e.2 acc ++ ents).map (·.1)).Nodup :=
      ((insert_append_perm e acc ents).map _).nodup_iff.mpr hnd
    simp only [List.length_cons, tableBytes, List.flatMap_cons, List.append_assoc, PropSet.readOffsets,
      readU32_u32le, Res.bind_ok, Nat.mod_eq_of_lt he.1, Nat.mod_eq_of_lt he.2, hany, Bool.false_eq_true,
      if_false, List.foldl_cons]
    exact ih rest _ hnd' hb'

/-- the parts of a property-set stream, wherever they lie -/
structure Layout where
  ver : Nat
  osVersion : Nat
  os : Nat
  clsid : Bytes
  reserved : Nat
  fmtid : Bytes
  sectionOffset : Nat
  size : Nat
  ents : List (Nat × Nat)

def Layout.header (L : Layout) : Bytes :=
  u16le Gen.propsetByteOrderMark ++ u16le L.ver ++ u16le L.osVersion ++ u16le L.os ++ L.clsid ++ u32le L.reserved ++
    L.fmtid ++ u32le L.sectionOffset

def Layout.sectionHead (L : Layout) : Bytes := u32le L.size ++ u32le L.ents.length ++ tableBytes L.ents

/-- `data` carries the header at its start and the section head (size, count, offset table in
any order) at the section offset; everything else -- where the values lie, what lies between
them -- is left open -/
structure Fits (data : Bytes) (L : Layout) : Prop where
  header : ∃ r, data = L.header ++ r
  sect : L.sectionOffset ≤ data.length ∧ ∃ r, data.drop L.sectionOffset = L.sectionHead ++ r
  ver : L.ver ≤ 1
  os : L.os ≤ 2
  osVersion : L.osVersion < 65536
  reserved : 1 ≤ L.reserved ∧ L.reserved < 4294967296
  clsid : L.clsid.length = 16
  fmtid : L.fmtid.length = 16
  sectionOffset : L.sectionOffset < 4294967296
  size : L.size < 4294967296
  count : L.ents.length < 4294967296
  nodup : (L.ents.map (·.1)).Nodup
  bounds : ∀ e ∈ L.ents, e.1 < 4294967296 ∧ e.2 < 4294967296

/-- **the reader on any layout**: header fields as stored; the properties are those of the offset
table sorted by id, each value read at its own offset (under the code page that property 1, read
at its offset, names) -/
theorem read_layout (data : Bytes) (L : Layout) (h : Fits data L) :
    PropSet.read data =
      (PropSet.readCodepage data L.sectionOffset (sortEnts L.ents)).bind fun cp =>
      (PropSet.readVals data L.ver L.sectionOffset cp (sortEnts L.ents) []).bind fun props =>
      .ok ⟨L.os, L.osVersion, L.clsid, L.fmtid, cp, props⟩ := by
  obtain ⟨r, hr⟩ := h.header
  obtain ⟨hso, r2, hr2⟩ := h.sect
  have hseek : PropSet.seekTo data L.sectionOffset = .ok (L.sectionHead ++ r2) := by
    unfold PropSet.seekTo
    rw [if_neg (by omega), hr2]
  have hver := h.ver
  have hos := h.os
  unfold PropSet.read
  -- the header is read off `L.header ++ r`; the later reads seek in `data` itself
  conv => lhs; arg 1; rw [hr]
  simp only [Layout.header, List.append_assoc, readU16_u16le, readU32_u32le, Res.bind_ok,
    Nat.mod_eq_of_lt (show Gen.propsetByteOrderMark < 65536 by decide), ne_eq, not_true_eq_false, if_false,
    Nat.mod_eq_of_lt (show L.ver < 65536 by omega), if_neg (show ¬ L.ver > 1 by omega),
    Nat.mod_eq_of_lt h.osVersion, Nat.mod_eq_of_lt (show L.os < 65536 by omega),
    if_neg (show ¬ L.os > 2 by omega), readExact_append _ _ 16 h.clsid, Nat.mod_eq_of_lt h.reserved.2,
    if_neg (Nat.not_lt.mpr h.reserved.1), readExact_append _ _ 16 h.fmtid, Nat.mod_eq_of_lt h.sectionOffset,
    hseek, Layout.sectionHead, Nat.mod_eq_of_lt h.count,
    readOffsets_any L.ents r2 [] (by simpa using h.nodup) h.bounds]
  rfl

theorem readVals_congr (data data' : Bytes) (ver so cp : Nat) : ∀ (offs : List (Nat × Nat)) (acc : List (Nat × PropVal)),
    (∀ e ∈ offs, PropSet.seekTo data (so + e.2) = PropSet.seekTo data' (so + e.2)) →
    PropSet.readVals data ver so cp offs acc = PropSet.readVals data' ver so cp offs acc := by
  intro offs
  induction offs with
  | nil => intro acc _; rfl
  | cons e rest ih =>
    intro acc h
    obtain ⟨he, hrest⟩ := List.forall_mem_cons.mp h
    unfold PropSet.readVals
    rw [he]
    refine Res.bind_congr fun here _ => Res.bind_congr fun v _ => ?_
    rw [ih _ hrest]

theorem readCodepage_congr (data data' : Bytes) (so : Nat) (offs : List (Nat × Nat))
    (h : ∀ e ∈ offs, PropSet.seekTo data (so + e.2) = PropSet.seekTo data' (so + e.2)) :
    PropSet.readCodepage data so offs = PropSet.readCodepage data' so offs := by
  unfold PropSet.readCodepage
  cases hf : offs.find? (·.1 == Gen.propCodepage) with
  | none => rfl
  | some e => simp only [h e (List.mem_of_find?_eq_some hf)]

/-- **two streams that differ in layout only read as the same property set**: same header
fields, the same offset-table entries in any order, the same bytes at each listed offset -/
theorem read_layout_independent (data data' : Bytes) (L L' : Layout) (h : Fits data L) (h' : Fits data' L')
    (hv : L'.ver = L.ver) (ho : L'.os = L.os) (hov : L'.osVersion = L.osVersion) (hc : L'.clsid = L.clsid)
    (hf : L'.fmtid = L.fmtid) (hs : L'.sectionOffset = L.sectionOffset) (hp : L.ents.Perm L'.ents)
    (hat : ∀ e ∈ L.ents, PropSet.seekTo data (L.sectionOffset + e.2) = PropSet.seekTo data' (L.sectionOffset + e.2)) :
    PropSet.read data = PropSet.read data' := by
  have hat' : ∀ e ∈ sortEnts L.ents, PropSet.seekTo data (L.sectionOffset + e.2) = PropSet.seekTo data' (L.sectionOffset + e.2) :=
    fun e he => hat e ((sortEnts_perm_self L.ents).mem_iff.mp he)
  rw [read_layout data L h, read_layout data' L' h', hv, ho, hov, hc, hf, hs, ← sortEnts_perm L.ents L'.ents h.nodup hp,
    readCodepage_congr data data' _ _ hat']
  exact Res.bind_congr fun cp _ => by rw [readVals_congr data data' _ _ _ _ _ hat']

end MsiProofs.PropSetLayout

namespace MsiProofs.PropSetCodec
open MsiModel MsiModel.Bytes MsiProofs.Codec MsiProofs.PropSetLayout

theorem sortEnts_of_sorted {ents : List (Nat × Nat)} (h : ents.Pairwise (·.1 < ·.1)) : sortEnts ents = ents :=
  eq_of_sorted_perm
    (foldl_sorted ents [] .nil (by
      rw [List.nil_append, List.Nodup, List.pairwise_map]
      exact h.imp Nat.ne_of_lt))
    h (sortEnts_perm_self ents)

/-- **property-set round trip**: every well-formed property set is written, and reading the
written bytes gives the same property set back — header fields, code page, every property with
its value, in every code page whose codec round-trips the strings.  The writer's output is one
layout among those `read_layout` speaks of: section right behind the header, table ascending. -/
theorem propset_roundtrip (p : PropSet) (h : WF p) :
    ∃ bytes, p.write = .ok bytes ∧ PropSet.read bytes = .ok p := by
  obtain ⟨vbs, hw⟩ := written_exists p.codepage p.props h.vals
  have hsz := h.size vbs hw
  have hlen := written_length hw
  let ver := (p.props.map fun kv => kv.2.minVersion).foldl max 0
  have hver1 : ver ≤ 1 := (foldl_max_le_iff _ 0 1).mpr ⟨by omega, fun x hx => by
    obtain ⟨kv, -, rfl⟩ := List.mem_map.mp hx
    cases kv.2 <;> simp [PropVal.minVersion]⟩
  have hverge : ∀ kv ∈ p.props, kv.2.minVersion ≤ ver := fun kv hkv =>
    ((foldl_max_le_iff _ 0 ver).mp (Nat.le_refl _)).2 _ (List.mem_map.mpr ⟨kv, hkv, rfl⟩)
  let offs := offsFrom (8 + 8 * p.props.length) vbs
  have hoffl : p.props.length = offs.length := by rw [offsFrom_length]; exact hlen
  let S := 8 + 8 * p.props.length + total vbs
  let L : Layout := ⟨ver, p.osVersion, p.os, p.clsid, 1, p.fmtid, 48, S, (p.props.map (·.1)).zip offs⟩
  have htable : tableBytes L.ents = (p.props.zip offs).flatMap fun x => u32le x.1.1 ++ u32le x.2 := by
    simp only [L, tableBytes, List.zip_map_left, List.flatMap_map, Prod.map_fst, Prod.map_snd, id]
  let data : Bytes := L.header ++ L.sectionHead ++ vbs.flatten
  have hwrite : p.write = .ok data := by
    simp only [PropSet.write, offsets_spec p p.props vbs hw _ [] hsz, values_spec p p.props vbs hw [],
      Res.bind_ok, Res.pure_eq, List.reverse_nil, List.nil_append]
    simp only [data, Layout.header, Layout.sectionHead, htable, List.append_assoc, L, List.length_zip,
      List.length_map, ← hoffl, Nat.min_self]
    rfl
  refine ⟨data, hwrite, ?_⟩
  have hhdr : L.header.length = 48 := by
    simp only [Layout.header, List.length_append, L, h.clsid, h.fmtid, C10len.u32]
    rfl
  have hkeys : L.ents.map (·.1) = p.props.map (·.1) :=
    List.map_fst_zip (by simp [← hoffl])
  have hfits : Fits data L :=
    { header := ⟨L.sectionHead ++ vbs.flatten, by simp only [data, List.append_assoc]⟩
      sect := ⟨by simp [data, hhdr, L], vbs.flatten, by
        show (L.header ++ L.sectionHead ++ vbs.flatten).drop 48 = _
        rw [List.append_assoc, ← hhdr, List.drop_left]⟩
      ver := hver1, os := h.os, osVersion := h.osVersion, reserved := ⟨Nat.le_refl 1, show (1 : Nat) < 4294967296 by decide⟩
      clsid := h.clsid, fmtid := h.fmtid, sectionOffset := show (48 : Nat) < 4294967296 by decide, size := hsz
      count := by simp [L, ← hoffl]; omega
      nodup := by rw [hkeys]; exact h.asc.imp Nat.ne_of_lt
      bounds := fun e he => by
        obtain ⟨h1, h2⟩ := List.of_mem_zip he
        obtain ⟨kv, hkv, hk⟩ := List.mem_map.mp h1
        exact ⟨hk ▸ h.ids kv hkv, offsFrom_lt vbs _ hsz _ h2⟩ }
  have hsorted : sortEnts L.ents = L.ents :=
    sortEnts_of_sorted (List.pairwise_map.mp (by rw [hkeys]; exact h.asc))
  -- the values lie right behind the section head
  have hpre : data = (L.header ++ L.sectionHead) ++ vbs.flatten := rfl
  have hprel : (L.header ++ L.sectionHead).length - 48 = 8 + 8 * p.props.length := by
    simp only [List.length_append, hhdr, Layout.sectionHead, C10len.u32, htable,
      table_length p.props offs hoffl]
    omega
  have hpre48 : 48 ≤ (L.header ++ L.sectionHead).length := by simp only [List.length_append, hhdr]; omega
  have hcp := readCodepage_spec data p.codepage p.codepage p.props vbs hw _ h.vals h.cp hpre hpre48
  have hvals := readVals_spec data p.codepage ver p.props vbs hw _ [] h.vals hverge hpre hpre48
  rw [hprel] at hcp hvals
  rw [read_layout data L hfits, hsorted, hcp]
  show (PropSet.readVals data ver 48 p.codepage _ []).bind _ = _
  rw [hvals]
  rfl

end MsiProofs.PropSetCodec
