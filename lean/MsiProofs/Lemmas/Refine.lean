import MsiProofs.Lemmas.StreamsMap
import MsiProofs.Props.C05
import MsiProofs.Props.C08
import MsiProofs.Lemmas.LoopSpecs
import MsiProofs.Lemmas.PoolOps
/-
`Insert::exec` against the relational reading of the package: the values of the rows it
writes are exactly the values of the rows that were stored plus the new rows (with "" stored
as null), in key order; the values of all other stored cells are unchanged (the string pool only
grows: live entries keep their text); no other stream of the container is touched.
-/
namespace MsiProofs.Refine
open MsiModel MsiModel.Bytes MsiModel.Pkg MsiProofs.Order MsiProofs.SaveOpen MsiProofs.Synced

/-- `p'` extends `p`: every live entry of `p` is live in `p'` with the same text -/
def Ext (p p' : Pool) : Prop := ∀ q, 0 < p.refcount q → p'.get q = p.get q ∧ 0 < p'.refcount q

theorem Ext.refl (p : Pool) : Ext p p := fun _ h => ⟨rfl, h⟩
theorem Ext.trans {a b c : Pool} (h1 : Ext a b) (h2 : Ext b c) : Ext a c := by
  intro q hq
  obtain ⟨e1, l1⟩ := h1 q hq
  obtain ⟨e2, l2⟩ := h2 q l1
  exact ⟨e2.trans e1, l2⟩

theorem insertExec_ok_inv {s : Pkg} {tname : List Char} {rows : List (List Value)} {s' : Pkg}
    (h : insertExec s tname rows = (s', .ok ()))
    {t : Table} (ht : s.findTable tname = some t) {existing : List (List Cell)} (hl : s.loadRows t = .ok existing) :
    ∃ m pool' m' bs,
      (∀ r ∈ rows, r.length = t.columns.length) ∧
      (∀ r ∈ rows, ∀ x ∈ t.columns.zip r, x.1.isValidValue x.2 = true) ∧
      loadMap s.pool t.keyIndices existing [] = some m ∧
      m.length + rows.length ≤ Gen.maxTableRows ∧
      addRows t.keyIndices s.pool (rows.map fun r => r.map storable) m = .ok (pool', m') ∧
      t.writeRows (m'.map (·.2)) = .ok bs ∧
      s' = { s with pool := pool', cont := Cont.put s.cont t.streamName bs } := by
  rw [Exec.insertExec_eq] at h
  obtain ⟨t', pool', out, bs, hf, hp, hw, hs'⟩ := Exec.onTable_ok.mp h
  rw [ht] at hf; cases hf
  obtain ⟨ex, m, m', h1, h2, hl', hm, -, hmax, ha, rfl⟩ := Exec.insertPlan_ok.mp hp
  rw [hl] at hl'; cases hl'
  exact ⟨m, pool', m', bs, h1, h2, hm, hmax, ha, hw, hs'⟩

theorem deleteExec_ok_inv {s : Pkg} {tname : List Char} {cond : Option Ast} {s' : Pkg}
    (h : deleteExec s tname cond = (s', .ok ()))
    {t : Table} (ht : s.findTable tname = some t) {existing : List (List Cell)} (hl : s.loadRows t = .ok existing) :
    ∃ pool' kept bs, deleteGo t cond s.pool existing [] = .ok (pool', kept) ∧ t.writeRows kept = .ok bs ∧
      s' = { s with pool := pool', cont := Cont.put s.cont t.streamName bs } := by
  rw [Exec.deleteExec_eq] at h
  obtain ⟨t', pool', kept, bs, hf, hp, hw, hs'⟩ := Exec.onTable_ok.mp h
  rw [ht] at hf; cases hf
  obtain ⟨ex, -, hl', hd⟩ := Exec.deletePlan_ok.mp hp
  rw [hl] at hl'; cases hl'
  exact ⟨pool', kept, bs, hd, hw, hs'⟩

theorem onTable_table {s : Pkg} {tn : List Char} {plan : Table → Res (Pool × List (List Cell))} {s' : Pkg}
    (h : Exec.onTable s tn plan = (s', .ok ())) : ∃ t, s.findTable tn = some t :=
  let ⟨t, _, _, _, hf, _⟩ := Exec.onTable_ok.mp h
  ⟨t, hf⟩

theorem get_refcount_of_entry (p : Pool) (q : Nat) (st : List Char) (rc : Nat) (h : p.strings[q - 1]? = some (st, rc)) :
    p.get q = st ∧ p.refcount q = rc := by
  unfold Pool.get Pool.refcount
  simp [h]

theorem live_entry (p : Pool) (q : Nat) (h : 0 < p.refcount q) : ∃ st rc, p.strings[q - 1]? = some (st, rc) ∧ 0 < rc := by
  unfold Pool.refcount at h
  cases he : p.strings[q - 1]? with
  | none => simp [he] at h
  | some e => obtain ⟨st, rc⟩ := e; exact ⟨st, rc, rfl, by simpa [he] using h⟩

/-- **`incref` only extends the pool**: the returned reference reads as the string, and every
live entry keeps its text and stays live -/
theorem incref_ext (p : Pool) (s : List Char) (p' : Pool) (r : Nat) (h : p.incref s = .ok (p', r)) :
    Ext p p' ∧ p'.get r = s ∧ 0 < p'.refcount r := by
  obtain ⟨-, -, rc, hent, hpos⟩ := MsiProofs.C08.incref_accounting p s p' r h
  obtain ⟨hg, hr⟩ := get_refcount_of_entry p' r s rc hent
  refine ⟨?_, hg, by rw [hr]; exact hpos⟩
  intro q hq
  obtain ⟨st, rcq, hqe, hqpos⟩ := live_entry p q hq
  obtain ⟨hg0, -⟩ := get_refcount_of_entry p q st rcq hqe
  rcases MsiProofs.PoolOps.incref_eq_ok h with ⟨j, e, hj, -, hrw⟩ | ⟨-, -, -, -, rfl⟩
  · -- one entry rewritten: if it is `q`'s it was live, so it held `s` and gains a reference
    obtain ⟨rc'', h1, h2⟩ : ∃ rc'', p'.strings[q - 1]? = some (st, rc'') ∧ 0 < rc'' := by
      by_cases hjq : j = q - 1
      · subst hjq
        rw [hqe] at hj
        cases hj
        rcases hrw with ⟨h0, -⟩ | ⟨-, hst, -, rfl⟩
        · exact absurd h0 (Nat.ne_of_gt hqpos)
        · simp only at hst
          subst hst
          exact ⟨rcq + 1, List.getElem?_set_self (List.getElem?_eq_some_iff.mp hqe).1, Nat.succ_pos _⟩
      · rcases hrw with ⟨-, rfl⟩ | ⟨-, -, -, rfl⟩
        · exact ⟨rcq, by rw [List.getElem?_set_ne hjq]; exact hqe, hqpos⟩
        · exact ⟨rcq, by rw [List.getElem?_set_ne hjq]; exact hqe, hqpos⟩
    obtain ⟨hg1, hr1⟩ := get_refcount_of_entry p' q st rc'' h1
    exact ⟨hg1.trans hg0.symm, by rw [hr1]; exact h2⟩
  · have h1 : (p.strings ++ [(s, 1)])[q - 1]? = some (st, rcq) := by
      rw [List.getElem?_append_left (List.getElem?_eq_some_iff.mp hqe).1]; exact hqe
    obtain ⟨hg1, hr1⟩ := get_refcount_of_entry
      { p with strings := p.strings ++ [(s, 1)], modified := true } q st rcq h1
    exact ⟨hg1.trans hg0.symm, by rw [hr1]; exact hqpos⟩

/-- a stored cell that refers to a live pool entry (or to none) -/
def LiveCell (p : Pool) : Cell → Prop
  | .str r => 0 < p.refcount r
  | _ => True

theorem toValue_ext {p p' : Pool} (h : Ext p p') (c : Cell) (hc : LiveCell p c) :
    Cell.toValue p' c = Cell.toValue p c ∧ LiveCell p' c := by
  cases c with
  | null => exact ⟨rfl, trivial⟩
  | int n => exact ⟨rfl, trivial⟩
  | str r =>
    obtain ⟨h1, h2⟩ := h r hc
    exact ⟨by simp [Cell.toValue, h1], h2⟩

theorem rowValues_ext {p p' : Pool} (h : Ext p p') (cells : List Cell) (hc : ∀ c ∈ cells, LiveCell p c) :
    rowValues p' cells = rowValues p cells ∧ ∀ c ∈ cells, LiveCell p' c := by
  unfold rowValues
  refine ⟨List.map_congr_left fun c hcm => (toValue_ext h c (hc c hcm)).1, fun c hcm => (toValue_ext h c (hc c hcm)).2⟩

theorem create_ext (p : Pool) (v : Value) (p' : Pool) (c : Cell) (h : Cell.create p v = .ok (p', c)) :
    Ext p p' ∧ Cell.toValue p' c = v ∧ LiveCell p' c := by
  cases v with
  | null => cases h; exact ⟨.refl _, rfl, trivial⟩
  | int n => cases h; exact ⟨.refl _, rfl, trivial⟩
  | str s =>
    obtain ⟨⟨q, r⟩, hi, he⟩ := Res.bind_eq_ok.mp h
    cases he
    obtain ⟨he, hg, hl⟩ := incref_ext p s _ r hi
    exact ⟨he, by simp [Cell.toValue, hg], hl⟩

theorem extInc : MsiProofs.Loops.IncRel (fun _ => True) Ext :=
  ⟨Ext.refl, Ext.trans, fun p s p' r _ h => (incref_ext p s p' r h).1⟩

theorem createCells_ext : ∀ (vs : List Value) (p : Pool) (acc : List Cell) (p' : Pool) (cs : List Cell),
    (∀ c ∈ acc, LiveCell p c) → createCells p vs acc = .ok (p', cs) →
    rowValues p' cs = rowValues p acc.reverse ++ vs ∧ ∀ c ∈ cs, LiveCell p' c
  | [], p, acc, _, _, hacc, h => by
    cases h
    exact ⟨by simp, fun c hc => hacc c (List.mem_reverse.mp hc)⟩
  | v :: rest, p, acc, p', cs, hacc, h => by
    obtain ⟨⟨p1, c⟩, hc, h2⟩ := Res.bind_eq_ok.mp h
    obtain ⟨he1, hv1, hl1⟩ := create_ext p v p1 c hc
    obtain ⟨hv2, hl2⟩ := createCells_ext rest p1 (c :: acc) p' cs
      (fun d hd => (List.mem_cons.mp hd).elim (fun e => e ▸ hl1) fun hd => (toValue_ext he1 d (hacc d hd)).2) h2
    refine ⟨?_, hl2⟩
    have h1 := (rowValues_ext he1 acc.reverse (fun d hd => hacc d (List.mem_reverse.mp hd))).1
    rw [hv2, List.reverse_cons]
    unfold rowValues at h1 ⊢
    rw [List.map_append, h1]
    simp [hv1]


/-- all cells of all rows of a key-sorted map refer to live entries -/
def LiveMap (p : Pool) (m : RowMap) : Prop := ∀ e ∈ m, ∀ c ∈ e.2, LiveCell p c

def mapValues (p : Pool) (m : RowMap) : List (List Value) := m.map fun e => rowValues p e.2

theorem mapValues_ext {p p' : Pool} (h : Ext p p') (m : RowMap) (hl : LiveMap p m) :
    mapValues p' m = mapValues p m ∧ LiveMap p' m := by
  unfold mapValues
  refine ⟨List.map_congr_left fun e he => (rowValues_ext h e.2 (hl e he)).1, fun e he => (rowValues_ext h e.2 (hl e he)).2⟩

/-- the key stored with each row of the map is the key of that row's values -/
def KeyOk (p : Pool) (keyIdx : List Nat) (m : RowMap) : Prop := ∀ e ∈ m, e.1 = keyOf keyIdx (rowValues p e.2)

/-- **adding rows to the map**: the map stays live and keyed by its rows' values, and its rows as
values are the old rows plus the new ones -/
theorem addRows_values (keyIdx : List Nat) : ∀ (rows : List (List Value)) {p : Pool} {m : RowMap} {p' : Pool}
    {m' : RowMap}, LiveMap p m → KeyOk p keyIdx m → addRows keyIdx p rows m = .ok (p', m') →
    LiveMap p' m' ∧ KeyOk p' keyIdx m' ∧ (mapValues p' m').Perm (mapValues p m ++ rows)
  | [], p, m, _, _, hl, hk, h => by cases h; exact ⟨hl, hk, by simp⟩
  | r :: rs, p, m, p', m', hl, hk, h => by
    obtain ⟨⟨p1, cells⟩, hc, h2⟩ := Res.bind_eq_ok.mp h
    have he1 : Ext p p1 := MsiProofs.Loops.createCells_inc extInc r (fun _ _ => trivial) hc
    obtain ⟨hv1, hl1⟩ := createCells_ext r p [] p1 cells (fun _ hx => by simp at hx) hc
    have hv1 : rowValues p1 cells = r := by simpa [rowValues] using hv1
    cases hm : mapInsert (keyOf keyIdx r) cells m with
    | none => simp [hm] at h2
    | some m1 =>
      simp only [hm] at h2
      have hp1 := MsiProofs.LoopSpecs.mapInsert_perm hm
      obtain ⟨hmv, hml⟩ := mapValues_ext he1 m hl
      have hl1' : LiveMap p1 m1 := fun e he => by
        rcases List.mem_cons.mp (hp1.mem_iff.mp he) with rfl | he
        · exact hl1
        · exact hml e he
      have hk1 : KeyOk p1 keyIdx m1 := fun e he => by
        rcases List.mem_cons.mp (hp1.mem_iff.mp he) with rfl | he
        · rw [hv1]
        · rw [hk e he, (rowValues_ext he1 e.2 (hl e he)).1]
      obtain ⟨hl2, hk2, hperm⟩ := addRows_values keyIdx rs hl1' hk1 h2
      have hmid : (mapValues p1 m1).Perm (r :: mapValues p m) := by
        rw [← hmv, ← hv1]; exact hp1.map fun e => rowValues p1 e.2
      exact ⟨hl2, hk2, hperm.trans ((List.Perm.append_right rs hmid).trans List.perm_middle.symm)⟩

theorem insert_core {s : Pkg} {tname : List Char} {rows : List (List Value)} {s' : Pkg}
    (h : insertExec s tname rows = (s', .ok ()))
    {t : Table} (ht : s.findTable tname = some t) {existing : List (List Cell)}
    (hl : s.loadRows t = .ok existing) (hlive : ∀ r ∈ existing, ∀ c ∈ r, LiveCell s.pool c) :
    ∃ m pool' m' bs,
      (∀ r ∈ rows, r.length = t.columns.length) ∧
      (∀ r ∈ rows, ∀ x ∈ t.columns.zip r, x.1.isValidValue x.2 = true) ∧
      loadMap s.pool t.keyIndices existing [] = some m ∧ m.length + rows.length ≤ Gen.maxTableRows ∧
      addRows t.keyIndices s.pool (rows.map fun r => r.map storable) m = .ok (pool', m') ∧
      t.writeRows (m'.map (·.2)) = .ok bs ∧
      s' = { s with pool := pool', cont := Cont.put s.cont t.streamName bs } ∧
      Sorted m ∧ (m.map (·.2)).Perm existing ∧ Ext s.pool pool' ∧ LiveMap pool' m' ∧
      ((m'.map (·.2)).map (rowValues pool')).Perm
        (existing.map (rowValues s.pool) ++ rows.map fun r => r.map storable) ∧
      ((m'.map (·.2)).map fun cells => keyOf t.keyIndices (rowValues pool' cells)).Pairwise
        (fun a b => keyLt a b = true) := by
  obtain ⟨m, pool', m', bs, hlen, hval, hm, hmax, ha, hw, hs'⟩ := insertExec_ok_inv h ht hl
  obtain ⟨hperm, hk0⟩ := MsiProofs.LoopSpecs.loadMap_nil hm
  have hsm : Sorted m := MsiProofs.C05.loadMap_sorted (by simp [Sorted]) hm
  have hlm : LiveMap s.pool m := fun e he => hlive e.2 (hperm.mem_iff.mp (List.mem_map.mpr ⟨e, he, rfl⟩))
  obtain ⟨hl', hk', hvals⟩ := addRows_values t.keyIndices _ hlm hk0 ha
  have hext : Ext s.pool pool' := MsiProofs.Loops.addRows_inc extInc t.keyIndices _ (fun _ _ _ _ => trivial) ha
  refine ⟨m, pool', m', bs, hlen, hval, hm, hmax, ha, hw, hs', hsm, hperm, hext, hl', ?_, ?_⟩
  · rw [List.map_map]
    refine hvals.trans (List.Perm.append_right _ ?_)
    have := hperm.map (rowValues s.pool)
    rwa [List.map_map] at this
  · rw [List.map_map, List.pairwise_map]
    refine List.Pairwise.imp_of_mem ?_ (MsiProofs.C05.addRows_sorted hsm ha)
    intro a b ha hb hab
    simp only [Function.comp]
    rw [← hk' a ha, ← hk' b hb]
    exact hab

/-- **`Insert::exec` refines the relational insert.**  If it succeeds on a table whose stored
cells refer to live pool entries, then the rows it writes (`stored`, the bytes of the table's
stream being `write_rows stored`) are, as values under the new pool, exactly the old rows as
values under the old pool plus the new rows with "" stored as null — in strictly ascending key
order —, the pool has only been extended (so the value of every other live cell of the package
is unchanged), every other stream of the container is untouched, and nothing else of the state
changes -/
theorem insert_refines (s : Pkg) (tname : List Char) (rows : List (List Value)) (s' : Pkg)
    (h : insertExec s tname rows = (s', .ok ()))
    (t : Table) (ht : s.findTable tname = some t) (existing : List (List Cell))
    (hl : s.loadRows t = .ok existing) (hlive : ∀ r ∈ existing, ∀ c ∈ r, LiveCell s.pool c) :
    ∃ stored bytes,
      t.writeRows stored = .ok bytes ∧ dataOf s'.cont t.streamName = some bytes ∧
      (∀ v, v ∈ stored.map (rowValues s'.pool) ↔
        v ∈ existing.map (rowValues s.pool) ∨ v ∈ rows.map (fun r => r.map storable)) ∧
      (stored.map fun cells => keyOf t.keyIndices (rowValues s'.pool cells)).Pairwise (fun a b => keyLt a b = true) ∧
      Ext s.pool s'.pool ∧
      (∀ n, key t.streamName ≠ key n → dataOf s'.cont n = dataOf s.cont n) ∧
      s'.tables = s.tables ∧ s'.summary = s.summary := by
  obtain ⟨m, pool', m', bs, -, -, -, -, -, hw, rfl, -, -, hext, -, hperm, hsorted⟩ := insert_core h ht hl hlive
  exact ⟨m'.map (·.2), bs, hw, dataOf_put_same _ _ _, fun v => hperm.mem_iff.trans List.mem_append, hsorted, hext,
    fun n hn => dataOf_put_other _ _ _ _ hn, rfl, rfl⟩

end MsiProofs.Refine
