import MsiProofs.Lemmas.Refine
/-
`Delete::exec` against the relational reading: when the reference counts of the string pool
cover the references held by the stored cells (`Accounted`), deleting rows releases exactly
their references, so the values of all rows that stay — in this table and anywhere else — are
unchanged, the rows kept are exactly those for which the condition (evaluated on the original
values) is false, and the accounting keeps holding.
-/
namespace MsiProofs.RefineDelete
open MsiModel MsiModel.Bytes MsiModel.Pkg MsiProofs.Refine

/-- string cells refer to positions ≥ 1 (0 is the null reference and never a `str` cell) -/
def PosRefs (cells : List Cell) : Prop := ∀ r, Cell.str r ∈ cells → 0 < r

/-- the pool's reference counts cover the references held by `cells` -/
def Accounted (p : Pool) (cells : List Cell) : Prop := ∀ r, cells.count (.str r) ≤ p.refcount r

/-- **`decref` releases one reference of `r` and nothing else**: other entries are untouched, and
`r` itself keeps its text as long as a reference remains -/
theorem decref_spec (p : Pool) (r : Nat) (hr : 0 < r) :
    (∀ q, 0 < q → q ≠ r → (p.decref r).get q = p.get q ∧ (p.decref r).refcount q = p.refcount q) ∧
    (p.decref r).refcount r = p.refcount r - 1 ∧
    (1 < p.refcount r → (p.decref r).get r = p.get r) := by
  rcases MsiProofs.PoolOps.decref_eq p r with ⟨st, rc, he, hrc, e⟩ | ⟨hd, e⟩ <;> rw [e]
  · have hlt : r - 1 < p.strings.length := (List.getElem?_eq_some_iff.mp he).1
    refine ⟨fun q hq hne => ?_, ?_, fun hgt => ?_⟩
    · simp only [Pool.get, Pool.refcount, List.getElem?_set_ne (show r - 1 ≠ q - 1 by omega)]
      exact ⟨trivial, trivial⟩
    · simp [Pool.refcount, he, List.getElem?_set_self hlt]
    · have : ¬ (rc - 1 = 0) := by simp only [Pool.refcount, he] at hgt; omega
      simp [Pool.get, he, List.getElem?_set_self hlt, this]
  · -- nothing to release: the count is 0 already
    refine ⟨fun q _ _ => ⟨rfl, rfl⟩, ?_, fun _ => rfl⟩
    show p.refcount r = p.refcount r - 1
    unfold Pool.refcount
    cases he : p.strings[r - 1]? with
    | none => rfl
    | some e =>
      cases hrc : e.2 with
      | zero => simp [hrc]
      | succ n =>
        have := MsiProofs.PoolOps.decrefAt_eq_some.mpr ⟨e.1, e.2, he, by omega, rfl⟩
        rw [hd] at this
        cases this

/-- the references from a list, cell by cell (`omega` then sees the two counts as atoms) -/
theorem count_cons_single {α} [BEq α] (c : α) (rest : List α) (x : α) :
    (c :: rest).count x = [c].count x + rest.count x :=
  List.count_append (l₁ := [c])

/-! The arithmetic of counts that move: `p1 + a = p + b` says a pool went from counts `p` to `p1`
giving up `a` references and taking `b`.  Stated once about numbers, because each call of `omega`
costs as much to check as a page of rewriting. -/
section counts
variable {p p1 p' a b c d : Nat}
theorem delta_trans (h1 : p1 + a = p + b) (h2 : p' + c = p1 + d) : p' + (a + c) = p + (b + d) := by
  rw [Nat.add_comm a c, ← Nat.add_assoc, h2, Nat.add_right_comm, h1, Nat.add_assoc]
theorem delta_comp (h1 : p1 + a = p + b) (h2 : p' + b = p1 + d) : p' + a = p + d :=
  Nat.add_right_cancel (m := b) (by rw [Nat.add_right_comm, h2, Nat.add_right_comm, h1, Nat.add_right_comm])
theorem delta_le (h1 : p1 + a = p + b) (h : a + c ≤ p) : c ≤ p1 := by omega
theorem delta_le' (h1 : p1 + a = p + b) (h : a ≤ p) : b ≤ p1 := by omega
theorem delta_lt (h1 : p1 + a = p + b) (h : a + c < p) : c < p1 := by omega
theorem delta_lt' (h1 : p1 + a = p + b) (h : a < p) : b < p1 := by omega
theorem delta_lt_pos (h1 : p1 + a = p + b) (h : a + c ≤ p) (hb : 1 ≤ b) : c < p1 := by omega
theorem lt_of_add_le (h : a + c ≤ p) (hc : 1 ≤ c) : a < p := by omega
/-- one cell `b` among others (`a` before, `c` after) exchanged for `d` -/
theorem delta_mid (h1 : p1 + b = p + d) : p1 + (a + (b + c)) = p + (a + (d + c)) := by
  rw [Nat.add_left_comm p1 a, Nat.add_left_comm p a, ← Nat.add_assoc p1 b, ← Nat.add_assoc p d, h1]
theorem sub_delta (h1 : p1 = p - b) (h2 : p' = p1 + d) (hb : b ≤ p) : p' + b = p + d := by
  rw [h2, h1, Nat.add_right_comm, Nat.sub_add_cancel hb]
theorem mid_le (h : a + (b + c) ≤ p) : b ≤ p := by omega
theorem mid_lt' (h : a + (b + c) < p) : b < p := by omega
theorem mid_lt (h : a + (b + c) ≤ p) (h1 : 1 ≤ a + c) : b < p := by omega
theorem add_left_delta (h : p' + c = p + d) : p' + (a + c) = p + (a + d) := by
  rw [Nat.add_left_comm p' a, Nat.add_left_comm p a, h]
theorem lt_cancel (h : a + c < p + (a + d)) : c < p + d := by omega
/-- `a` references released and none taken, then `c` given up and `d` taken -/
theorem delta_drop (h1 : p1 + a = p) (h2 : p' + c = p1 + d) : p' + (a + c) = p + d := by
  rw [Nat.add_comm a c, ← Nat.add_assoc, h2, Nat.add_right_comm, h1]
theorem drop_lt (h1 : p1 + a = p) (h : a + c < p + d) : c < p1 + d := by omega
theorem lt_of_lt_add (h : a + c < p + d) (hd : d ≤ c) : a < p := by omega
/-- `a` references of interest, `b` others and the slack `c` make up a count -/
theorem acc_le (h : a + b + c = p) : a ≤ p := by omega
theorem acc_lt (h : a + b + c = p) (hb : 1 ≤ b) : a < p := by omega
theorem acc_delta (h : a + b + c = p) (h1 : p1 + a = p + d) : d + b + c = p1 :=
  Nat.add_right_cancel (m := a) (by
    rw [h1, ← h, Nat.add_comm _ a, Nat.add_assoc d, Nat.add_assoc a, Nat.add_left_comm]; exact Nat.add_comm _ _)
end counts

theorem PosRefs.sub {a b : List Cell} (h : PosRefs b) (hsub : ∀ c ∈ a, c ∈ b) : PosRefs a :=
  fun r hr => h r (hsub _ hr)

theorem toValue_of_get {p p' : Pool} : ∀ (d : Cell), (∀ q, d = .str q → p'.get q = p.get q) →
    Cell.toValue p' d = Cell.toValue p d
  | .null, _ => rfl
  | .int _, _ => rfl
  | .str q, h => by simp only [Cell.toValue]; rw [h q rfl]

theorem rowValues_of_get {p p' : Pool} {r : List Cell} (h : ∀ q, Cell.str q ∈ r → p'.get q = p.get q) :
    rowValues p' r = rowValues p r :=
  List.map_congr_left fun d hd => toValue_of_get d fun q e => h q (e ▸ hd)

theorem mem_drop_mid {α} {a : α} {pre row rest : List α} (h : a ∈ pre ++ rest) : a ∈ pre ++ row ++ rest := by
  rcases List.mem_append.mp h with h | h
  · exact List.mem_append_left _ (List.mem_append_left _ h)
  · exact List.mem_append_right _ h

/-- **releasing the references of some cells, as a change of the counts**: every count drops by the
number of references released, and an entry that someone else still refers to keeps its text -/
theorem foldl_remove_refcount : ∀ (cs : List Cell) (p : Pool), PosRefs cs → ∀ q, 0 < q →
    (cs.foldl Cell.remove p).refcount q = p.refcount q - cs.count (.str q) ∧
    (cs.count (.str q) < p.refcount q → (cs.foldl Cell.remove p).get q = p.get q)
  | [], _, _, _, _ => ⟨rfl, fun _ => rfl⟩
  | c :: cs, p, hp, q, hq => by
    obtain ⟨h3, h4⟩ := foldl_remove_refcount cs (Cell.remove p c) (hp.sub fun _ h => List.mem_cons_of_mem _ h) q hq
    have h12 : (Cell.remove p c).refcount q = p.refcount q - [c].count (.str q) ∧
        ([c].count (.str q) < p.refcount q → (Cell.remove p c).get q = p.get q) := by
      cases c with
      | null => exact ⟨rfl, fun _ => rfl⟩
      | int n => exact ⟨rfl, fun _ => rfl⟩
      | str r =>
        obtain ⟨h1, h2, h3⟩ := decref_spec p r (hp r List.mem_cons_self)
        by_cases hqr : q = r
        · subst hqr
          rw [List.count_singleton_self]
          exact ⟨h2, h3⟩
        · rw [List.count_eq_zero.mpr fun hm => hqr (Cell.str.inj (List.mem_singleton.mp hm))]
          exact ⟨(h1 q hq hqr).2, fun _ => (h1 q hq hqr).1⟩
    rw [List.foldl_cons, h3, count_cons_single c cs]
    exact ⟨h12.1 ▸ Nat.sub_sub _ _ _, fun h => (h4 (h12.1 ▸ Nat.lt_sub_iff_add_lt'.mpr h)).trans
      (h12.2 (Nat.lt_of_le_of_lt (Nat.le_add_right _ _) h))⟩

theorem foldl_remove_accounted (row : List Cell) (p : Pool) (pre rest : List Cell)
    (hpos : PosRefs (pre ++ row ++ rest)) (hacc : Accounted p (pre ++ row ++ rest)) :
    Accounted (row.foldl Cell.remove p) (pre ++ rest) ∧
    (∀ d ∈ pre ++ rest, Cell.toValue (row.foldl Cell.remove p) d = Cell.toValue p d) := by
  have hrow : PosRefs row := hpos.sub fun _ h => List.mem_append_left _ (List.mem_append_right _ h)
  refine ⟨fun q => ?_, fun d hd => ?_⟩
  · by_cases hq : 0 < q
    · have := hacc q
      rw [(foldl_remove_refcount row p hrow q hq).1]
      simp only [List.count_append] at this ⊢
      omega
    · rw [List.count_eq_zero.mpr fun hm => hq (hpos q (mem_drop_mid hm))]
      exact Nat.zero_le _
  · refine toValue_of_get d fun q e => ?_
    subst e
    have h1 : 1 ≤ (pre ++ rest).count (.str q) := List.count_pos_iff.mpr hd
    have := hacc q
    exact (foldl_remove_refcount row p hrow q (hpos q (mem_drop_mid hd))).2
      (by simp only [List.count_append] at this h1; omega)

theorem evalCond_congr (t : Table) (p1 p2 : Pool) (cond : Option Ast) (cells : List Cell)
    (h : rowValues p1 cells = rowValues p2 cells) : evalCond t p1 cond cells = evalCond t p2 cond cells := by
  unfold evalCond
  cases cond with
  | none => rfl
  | some e => simp only [h]

theorem count_filter_le (f : List Cell → Bool) : ∀ (rows : List (List Cell)) (c : Cell),
    (rows.filter f).flatten.count c ≤ rows.flatten.count c
  | [], _ => Nat.le_refl _
  | r :: rs, c => by
    have := count_filter_le f rs c
    rw [List.filter_cons]
    split <;> simp only [List.flatten_cons, List.count_append] <;> omega

/-- **the `retain` loop of `Delete::exec`**: with the references held by the rows covered by the
counts, it keeps exactly the rows on which the condition — evaluated on the ORIGINAL values — is
false, in order; each count drops by the references of the rows removed; an entry still referred
to by anything else keeps its text -/
theorem deleteGo_spec (t : Table) (cond : Option Ast) : ∀ (rows : List (List Cell)) {p : Pool}
    {acc : List (List Cell)} {p' : Pool} {kept : List (List Cell)}, PosRefs rows.flatten →
    (∀ q, 0 < q → rows.flatten.count (.str q) ≤ p.refcount q) →
    deleteGo t cond p rows acc = .ok (p', kept) →
    kept = acc.reverse ++ rows.filter (fun r => evalCond t p cond r == .ok false) ∧
    ∀ q, 0 < q →
      p'.refcount q + rows.flatten.count (.str q) =
        p.refcount q + (rows.filter fun r => evalCond t p cond r == .ok false).flatten.count (.str q) ∧
      (rows.flatten.count (.str q) <
        p.refcount q + (rows.filter fun r => evalCond t p cond r == .ok false).flatten.count (.str q) →
        p'.get q = p.get q)
  | [], _, _, _, _, _, _, h => by cases h; exact ⟨by simp, fun q _ => ⟨rfl, fun _ => rfl⟩⟩
  | r :: rs, p, acc, p', kept, hpos, hacc, h => by
    obtain ⟨del, he, h2⟩ := Res.bind_eq_ok.mp h
    have hposr : PosRefs r := hpos.sub fun _ hc => by simp [hc]
    have hposrs : PosRefs rs.flatten := hpos.sub fun _ hc => by simp [hc]
    have haccr : ∀ q, 0 < q → r.count (.str q) + rs.flatten.count (.str q) ≤ p.refcount q := fun q hq => by
      have := hacc q hq; rwa [List.flatten_cons, List.count_append] at this
    cases del with
    | false =>
      obtain ⟨h1, h3⟩ := deleteGo_spec t cond rs hposrs
        (fun q hq => Nat.le_trans (Nat.le_add_left _ _) (haccr q hq)) h2
      have hfilter : (r :: rs).filter (fun x => evalCond t p cond x == .ok false) =
          r :: rs.filter (fun x => evalCond t p cond x == .ok false) := by simp [he]
      rw [hfilter]
      refine ⟨by rw [h1]; simp, fun q hq => ?_⟩
      obtain ⟨h4, h5⟩ := h3 q hq
      simp only [List.flatten_cons, List.count_append]
      exact ⟨add_left_delta h4, fun h => h5 (lt_cancel h)⟩
    | true =>
      simp only [if_true] at h2
      -- the counts after releasing `r`, additively: its references were covered
      have hrem : ∀ q, 0 < q → (r.foldl Cell.remove p).refcount q + r.count (.str q) = p.refcount q ∧
          (r.count (.str q) < p.refcount q → (r.foldl Cell.remove p).get q = p.get q) := fun q hq => by
        obtain ⟨e1, e2⟩ := foldl_remove_refcount r p hposr q hq
        exact ⟨by rw [e1]; exact Nat.sub_add_cancel (Nat.le_trans (Nat.le_add_right _ _) (haccr q hq)), e2⟩
      -- the rows still to be looked at read the same, so the condition on them is the same
      have hsame : ∀ x ∈ rs, evalCond t (r.foldl Cell.remove p) cond x = evalCond t p cond x := by
        intro x hx
        refine evalCond_congr _ _ _ _ _ (rowValues_of_get fun q hd => ?_)
        have hq : 0 < q := hposrs q (List.mem_flatten.mpr ⟨x, hx, hd⟩)
        exact (hrem q hq).2
          (lt_of_add_le (haccr q hq) (List.count_pos_iff.mpr (List.mem_flatten.mpr ⟨x, hx, hd⟩)))
      have hfeq : rs.filter (fun x => evalCond t (r.foldl Cell.remove p) cond x == .ok false) =
          rs.filter (fun x => evalCond t p cond x == .ok false) :=
        List.filter_congr fun x hx => by rw [hsame x hx]
      obtain ⟨h1, h3⟩ := deleteGo_spec t cond rs hposrs
        (fun q hq => delta_le (b := 0) (hrem q hq).1 (haccr q hq)) h2
      rw [hfeq] at h1 h3
      have hfilter : (r :: rs).filter (fun x => evalCond t p cond x == .ok false) =
          rs.filter (fun x => evalCond t p cond x == .ok false) := by
        simp only [List.filter_cons, he]; rfl
      rw [hfilter]
      refine ⟨h1, fun q hq => ?_⟩
      obtain ⟨h4, h5⟩ := h3 q hq
      obtain ⟨e1, e2⟩ := hrem q hq
      simp only [List.flatten_cons, List.count_append]
      exact ⟨delta_drop e1 h4, fun h => (h5 (drop_lt e1 h)).trans
        (e2 (lt_of_lt_add h (count_filter_le (fun x => evalCond t p cond x == .ok false) rs (.str q))))⟩

/-- **the `retain` loop of `Delete::exec`, relationally**: with the references of the rows still
to be looked at (`rows`) and of any other cells of interest (`pre`, `post`: rows already kept,
other tables) accounted for, the loop keeps exactly the rows on which the condition — evaluated
on the ORIGINAL values — is false, in order; every kept or other cell keeps its value; and the
accounting holds for what remains -/
theorem deleteGo_refines (t : Table) (cond : Option Ast) (rows : List (List Cell))
    (p : Pool) (acc : List (List Cell)) (pre post : List Cell) (p' : Pool) (kept : List (List Cell))
    (hpos : PosRefs (pre ++ rows.flatten ++ post)) (hacc : Accounted p (pre ++ rows.flatten ++ post))
    (h : deleteGo t cond p rows acc = .ok (p', kept)) :
    kept = acc.reverse ++ rows.filter (fun r => evalCond t p cond r == .ok false) ∧
    (∀ d ∈ pre ++ (rows.filter fun r => evalCond t p cond r == .ok false).flatten ++ post,
      Cell.toValue p' d = Cell.toValue p d) ∧
    Accounted p' (pre ++ (rows.filter fun r => evalCond t p cond r == .ok false).flatten ++ post) := by
  have hsub : ∀ c, c ∈ pre ++ (rows.filter fun r => evalCond t p cond r == .ok false).flatten ++ post →
      c ∈ pre ++ rows.flatten ++ post := fun c hc => by
    simp only [List.mem_append, List.mem_flatten] at hc ⊢
    rcases hc with (hc | ⟨x, hx, hcx⟩) | hc
    · exact Or.inl (Or.inl hc)
    · exact Or.inl (Or.inr ⟨x, (List.mem_filter.mp hx).1, hcx⟩)
    · exact Or.inr hc
  obtain ⟨h1, h2⟩ := deleteGo_spec t cond rows
    (hpos.sub fun _ hc => List.mem_append_left _ (List.mem_append_right _ hc))
    (fun q _ => by have := hacc q; simp only [List.count_append] at this; omega) h
  have hle := count_filter_le (fun r => evalCond t p cond r == .ok false) rows
  refine ⟨h1, fun d hd => ?_, fun q => ?_⟩
  · refine toValue_of_get d fun q e => ?_
    subst e
    have h3 := List.count_pos_iff.mpr hd
    have := hacc q
    have := hle (.str q)
    simp only [List.count_append] at *
    exact (h2 q (hpos q (hsub _ hd))).2 (by omega)
  · by_cases hq : 0 < q
    · have := hacc q
      have := hle (.str q)
      have := (h2 q hq).1
      simp only [List.count_append] at *
      omega
    · rw [List.count_eq_zero.mpr fun hm => hq (hpos q (hsub _ hm))]
      exact Nat.zero_le _

/-- **`Delete::exec` refines the relational delete.**  If it succeeds on a table whose stored
references — together with those of any other cells of interest (`others`: the cells of all
other tables, say) — are covered by the pool's reference counts, then the rows it writes are
exactly the stored rows on which the condition, evaluated on their values, is false, in the
stored order; every remaining cell (kept rows and `others`) keeps its value; the accounting
still holds for what remains; no other stream is touched and nothing else changes -/
theorem delete_refines (s : Pkg) (tname : List Char) (cond : Option Ast) (s' : Pkg)
    (h : deleteExec s tname cond = (s', .ok ()))
    (t : Table) (ht : s.findTable tname = some t) (existing : List (List Cell))
    (hl : s.loadRows t = .ok existing) (others : List Cell)
    (hpos : PosRefs (existing.flatten ++ others)) (hacc : Accounted s.pool (existing.flatten ++ others)) :
    ∃ bytes,
      t.writeRows (existing.filter fun r => evalCond t s.pool cond r == .ok false) = .ok bytes ∧
      MsiProofs.SaveOpen.dataOf s'.cont t.streamName = some bytes ∧
      (∀ d ∈ (existing.filter fun r => evalCond t s.pool cond r == .ok false).flatten ++ others,
        Cell.toValue s'.pool d = Cell.toValue s.pool d) ∧
      Accounted s'.pool ((existing.filter fun r => evalCond t s.pool cond r == .ok false).flatten ++ others) ∧
      (∀ n, MsiProofs.SaveOpen.key t.streamName ≠ MsiProofs.SaveOpen.key n →
        MsiProofs.SaveOpen.dataOf s'.cont n = MsiProofs.SaveOpen.dataOf s.cont n) ∧
      s'.tables = s.tables ∧ s'.summary = s.summary := by
  obtain ⟨pool', kept, bs, hd, hw, rfl⟩ := deleteExec_ok_inv h ht hl
  obtain ⟨hk, hv, ha⟩ := deleteGo_refines t cond existing s.pool [] [] others pool' kept
    (by simpa using hpos) (by simpa using hacc) hd
  simp only [List.reverse_nil, List.nil_append] at hk hv ha
  subst hk
  exact ⟨bs, hw, MsiProofs.SaveOpen.dataOf_put_same _ _ _, hv, ha,
    fun n hn => MsiProofs.SaveOpen.dataOf_put_other _ _ _ _ hn, rfl, rfl⟩

end MsiProofs.RefineDelete
