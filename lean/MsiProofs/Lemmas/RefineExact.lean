import MsiProofs.Lemmas.RefineLoad
/-
Reference counting, exactly (property C08 as an invariant of the operations): with
`AccountedWith slack p cells` — for every pool entry, (number of cells referring to it) + slack =
its reference count — releasing a cell's reference and interning a new cell's string both keep the
SAME slack.  With slack 0 this is "reference counts equal the number of references".
-/
namespace MsiProofs.RefineExact
open MsiModel MsiModel.Bytes MsiModel.Pkg MsiProofs.Refine MsiProofs.RefineDelete MsiProofs.Order

/-- (references from `cells`) + `slack` = reference count, for every entry (references start at 1) -/
def AccountedWith (slack : Nat → Nat) (p : Pool) (cells : List Cell) : Prop :=
  ∀ r, 0 < r → cells.count (.str r) + slack r = p.refcount r

theorem AccountedWith.accounted {slack : Nat → Nat} {p : Pool} {cells : List Cell}
    (hpos : PosRefs cells) (h : AccountedWith slack p cells) : Accounted p cells := by
  intro r
  by_cases hr : 0 < r
  · have := h r hr; omega
  · have : cells.count (.str r) = 0 := List.count_eq_zero.mpr (fun hm => hr (hpos r hm))
    omega

theorem accountedWith_perm {slack : Nat → Nat} {p : Pool} {a b : List Cell} (hp : a.Perm b)
    (h : AccountedWith slack p a) : AccountedWith slack p b := fun r hr => by rw [← hp.count_eq]; exact h r hr

theorem foldl_remove_accountedW (slack : Nat → Nat) (row : List Cell) (p : Pool) (pre rest : List Cell)
    (hpos : PosRefs (pre ++ row ++ rest)) (hacc : AccountedWith slack p (pre ++ row ++ rest)) :
    AccountedWith slack (row.foldl Cell.remove p) (pre ++ rest) := by
  intro q hq
  have := hacc q hq
  rw [(foldl_remove_refcount row p
    (hpos.sub fun _ h => List.mem_append_left _ (List.mem_append_right _ h)) q hq).1]
  simp only [List.count_append] at this ⊢
  omega

/-- **the `retain` loop of `Delete::exec` keeps the slack**: what remains is accounted with the
same slack (with slack 0: reference counts stay equal to the number of references) -/
theorem deleteGo_accountedW (slack : Nat → Nat) (t : Table) (cond : Option Ast) (rows : List (List Cell))
    (p : Pool) (acc : List (List Cell)) (pre post : List Cell) (p' : Pool) (kept : List (List Cell))
    (hpos : PosRefs (pre ++ rows.flatten ++ post)) (hacc : AccountedWith slack p (pre ++ rows.flatten ++ post))
    (h : deleteGo t cond p rows acc = .ok (p', kept)) :
    AccountedWith slack p' (pre ++ (rows.filter fun r => evalCond t p cond r == .ok false).flatten ++ post) := by
  obtain ⟨-, h2⟩ := deleteGo_spec t cond rows
    (hpos.sub fun _ hc => List.mem_append_left _ (List.mem_append_right _ hc))
    (fun q hq => by have := hacc q hq; simp only [List.count_append] at this; omega) h
  intro q hq
  have := hacc q hq
  have := (h2 q hq).1
  have := count_filter_le (fun r => evalCond t p cond r == .ok false) rows (.str q)
  simp only [List.count_append] at *
  omega


/-! ### interning, exactly -/

/-- **`incref` adds one reference to the entry it returns and changes no other count** -/
theorem incref_exact (p : Pool) (s : List Char) (p' : Pool) (r : Nat) (h : p.incref s = .ok (p', r)) :
    0 < r ∧ ∀ q, 0 < q → p'.refcount q = p.refcount q + (if q = r then 1 else 0) := by
  rcases MsiProofs.PoolOps.incref_eq_ok h with ⟨j, e, hj, rfl, hrw⟩ | ⟨-, -, -, rfl, rfl⟩
  · -- one entry rewritten: a free one now holds one reference, the string's own one more
    have hjl := (List.getElem?_eq_some_iff.mp hj).1
    refine ⟨Nat.succ_pos _, fun q hq => ?_⟩
    unfold Pool.refcount
    by_cases hqj : j = q - 1
    · subst hqj
      rw [if_pos (show q = q - 1 + 1 by omega), hj]
      rcases hrw with ⟨h0, rfl⟩ | ⟨-, -, -, rfl⟩
      · simp only [List.getElem?_set_self hjl, h0]
      · simp only [List.getElem?_set_self hjl]
    · rw [if_neg (show ¬ q = j + 1 by omega), Nat.add_zero]
      rcases hrw with ⟨-, rfl⟩ | ⟨-, -, -, rfl⟩
      · simp only [List.getElem?_set_ne hqj]
      · simp only [List.getElem?_set_ne hqj]
  · -- appended as the last entry
    refine ⟨by omega, fun q hq => ?_⟩
    unfold Pool.refcount
    simp only
    by_cases hlt : q - 1 < p.strings.length
    · rw [List.getElem?_append_left hlt, if_neg (by omega), Nat.add_zero]
    · by_cases hqr : q = p.strings.length + 1
      · subst hqr; simp
      · rw [List.getElem?_eq_none (by simp; omega), List.getElem?_eq_none (by omega), if_neg hqr]

theorem create_refcount {p : Pool} {v : Value} {p' : Pool} {c : Cell} (h : Cell.create p v = .ok (p', c)) :
    PosRefs [c] ∧ ∀ q, 0 < q → p'.refcount q = p.refcount q + [c].count (.str q) := by
  cases v with
  | null => cases h; exact ⟨fun r hr => by simp at hr, fun q _ => rfl⟩
  | int n => cases h; exact ⟨fun r hr => by simp at hr, fun q _ => rfl⟩
  | str s =>
    obtain ⟨⟨p1, r⟩, hi, he⟩ := Res.bind_eq_ok.mp h
    cases he
    obtain ⟨hr0, hex⟩ := incref_exact p s _ r hi
    refine ⟨fun k hk => ?_, fun q hq => ?_⟩
    · cases List.mem_singleton.mp hk; exact hr0
    · rw [hex q hq]
      by_cases hqr : q = r
      · subst hqr; rw [if_pos rfl, List.count_singleton_self]
      · rw [if_neg hqr, List.count_eq_zero.mpr fun hm => hqr (Cell.str.inj (List.mem_singleton.mp hm))]

theorem createCells_refcount : ∀ (vs : List Value) {p : Pool} {acc : List Cell} {p' : Pool} {cs : List Cell},
    PosRefs acc → createCells p vs acc = .ok (p', cs) →
    PosRefs cs ∧ ∀ q, 0 < q → p'.refcount q + acc.count (.str q) = p.refcount q + cs.count (.str q)
  | [], _, _, _, _, hp, h => by
    cases h
    exact ⟨fun r hr => hp r (List.mem_reverse.mp hr), fun q _ => by rw [List.count_reverse]⟩
  | v :: vs, _, acc, _, _, hp, h => by
    obtain ⟨⟨p1, c⟩, h1, h2⟩ := Res.bind_eq_ok.mp h
    obtain ⟨hc1, hc2⟩ := create_refcount h1
    obtain ⟨h3, h4⟩ := createCells_refcount vs (acc := c :: acc)
      (fun r hr => (List.mem_cons.mp hr).elim (fun e => hc1 r (by simp [e])) (hp r)) h2
    refine ⟨h3, fun q hq => ?_⟩
    have := hc2 q hq
    have := h4 q hq
    rw [count_cons_single c acc] at this
    omega

def cellsOf (m : RowMap) : List Cell := (m.map (·.2)).flatten

theorem cellsOf_perm {a b : RowMap} (h : a.Perm b) : (cellsOf a).Perm (cellsOf b) :=
  (h.map _).flatten

theorem addRows_refcount (keyIdx : List Nat) : ∀ (rows : List (List Value)) {p : Pool} {m : RowMap} {p' : Pool}
    {m' : RowMap}, PosRefs (cellsOf m) → addRows keyIdx p rows m = .ok (p', m') →
    PosRefs (cellsOf m') ∧
    ∀ q, 0 < q → p'.refcount q + (cellsOf m).count (.str q) = p.refcount q + (cellsOf m').count (.str q)
  | [], _, _, _, _, hp, h => by cases h; exact ⟨hp, fun _ _ => rfl⟩
  | r :: rs, _, m, _, _, hp, h => by
    obtain ⟨⟨p1, cells⟩, hc, h2⟩ := Res.bind_eq_ok.mp h
    obtain ⟨hc1, hc2⟩ := createCells_refcount r (fun _ hx => by simp at hx) hc
    cases hm : mapInsert (keyOf keyIdx r) cells m with
    | none => simp [hm] at h2
    | some m1 =>
      simp only [hm] at h2
      have hperm : (cellsOf m1).Perm (cells ++ cellsOf m) := cellsOf_perm (MsiProofs.LoopSpecs.mapInsert_perm hm)
      obtain ⟨h3, h4⟩ := addRows_refcount keyIdx rs
        (fun q hq => (List.mem_append.mp (hperm.mem_iff.mp hq)).elim (hc1 q) (hp q)) h2
      refine ⟨h3, fun q hq => ?_⟩
      have := hc2 q hq
      have := h4 q hq
      rw [hperm.count_eq, List.count_append] at this
      simp only [List.count_nil] at *
      omega

/-- **`Insert::exec` keeps the slack**: if the references of the table's stored cells and of any
other cells of interest, plus `slack`, equal the reference counts, the same holds after a
successful insert for the cells the new state reads (with slack 0: counts stay exact) -/
theorem insert_accountedW (slack : Nat → Nat) (s : Pkg) (tname : List Char) (rows : List (List Value)) (s' : Pkg)
    (h : insertExec s tname rows = (s', .ok ()))
    (t : Table) (ht : s.findTable tname = some t) (existing : List (List Cell))
    (hl : s.loadRows t = .ok existing) (others : List Cell)
    (hposr : PosRefs existing.flatten)
    (hacc : AccountedWith slack s.pool (existing.flatten ++ others))
    (hlive : ∀ r ∈ existing, ∀ c ∈ r, LiveCell s.pool c)
    (hs : MsiProofs.RowsOk.PoolSized s.pool) (hlr : s.pool.longRefs = t.longRefs) (hpos : 0 < t.rowSize) :
    ∃ stored, s'.loadRows t = .ok stored ∧
      AccountedWith slack s'.pool (stored.flatten ++ others) ∧ PosRefs stored.flatten := by
  obtain ⟨stored, hstored, -, -, -, -, -, -, -, m, m', hm, ha, hst⟩ :=
    MsiProofs.RefineLoad.insert_then_load s tname rows s' h t ht existing hl hlive hs hlr hpos
  have hperm0 : (cellsOf m).Perm existing.flatten := (MsiProofs.LoopSpecs.loadMap_nil hm).1.flatten
  obtain ⟨h1, h2⟩ := addRows_refcount t.keyIndices _ (fun q hq => hposr q (hperm0.mem_iff.mp hq)) ha
  subst hst
  refine ⟨_, hstored, fun q hq => ?_, h1⟩
  have := hacc q hq
  have := h2 q hq
  rw [hperm0.count_eq] at this
  simp only [List.count_append] at *
  exact (by omega : (cellsOf m').count (.str q) + others.count (.str q) + slack q = s'.pool.refcount q)


/-- **`Delete::exec` keeps the slack** for the cells the new state reads and any other cells of
interest (with slack 0: counts stay exact) -/
theorem delete_accountedW (slack : Nat → Nat) (s : Pkg) (tname : List Char) (cond : Option Ast) (s' : Pkg)
    (h : deleteExec s tname cond = (s', .ok ()))
    (t : Table) (ht : s.findTable tname = some t) (existing : List (List Cell))
    (hl : s.loadRows t = .ok existing) (others : List Cell)
    (hposr : PosRefs (existing.flatten ++ others))
    (hacc : AccountedWith slack s.pool (existing.flatten ++ others)) (hpos : 0 < t.rowSize) :
    s'.loadRows t = .ok (existing.filter fun r => evalCond t s.pool cond r == .ok false) ∧
    AccountedWith slack s'.pool ((existing.filter fun r => evalCond t s.pool cond r == .ok false).flatten ++ others) := by
  obtain ⟨hload, -, -⟩ := MsiProofs.RefineLoad.delete_then_load s tname cond s' h t ht existing hl others hposr
    (hacc.accounted hposr) hpos
  obtain ⟨pool', kept, bs, hd, -, rfl⟩ := deleteExec_ok_inv h ht hl
  have := deleteGo_accountedW slack t cond existing s.pool [] [] others pool' kept
    (by simpa using hposr) (by simpa using hacc) hd
  exact ⟨hload, by simpa using this⟩

theorem exact_iff (p : Pool) (cells : List Cell) :
    AccountedWith (fun _ => 0) p cells ↔ ∀ r, 0 < r → p.refcount r = cells.count (.str r) := by
  unfold AccountedWith
  constructor
  · intro h r hr; have := h r hr; simp only [Nat.add_zero] at this; exact this.symm
  · intro h r hr; have := h r hr; simp only [Nat.add_zero]; exact this.symm

end MsiProofs.RefineExact
