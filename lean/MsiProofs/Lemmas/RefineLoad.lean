import MsiProofs.Lemmas.RowsOk
import MsiProofs.Lemmas.RefineDelete
import MsiProofs.Props.C09b
/-
After a successful `Insert::exec` or `Delete::exec`, the table's stream reads back as exactly the
rows written: the relational statements of `insert_refines` and `delete_refines` hold for what
`loadRows` returns in the new state.
-/
namespace MsiProofs.RefineLoad
open MsiModel MsiModel.Bytes MsiModel.Pkg MsiProofs.Order MsiProofs.Refine MsiProofs.RowsOk MsiProofs.SaveOpen

theorem addRows_rowOk (t : Table) : ∀ (rows0 : List (List Value)) {p : Pool} {m : RowMap} {p' : Pool} {m' : RowMap},
    (∀ r ∈ rows0, r.length = t.columns.length) →
    (∀ r ∈ rows0, ∀ x ∈ t.columns.zip r, x.1.isValidValue x.2 = true) →
    PoolSized p → p.longRefs = t.longRefs → (∀ e ∈ m, RowOk t.longRefs t.columns e.2) →
    addRows t.keyIndices p (rows0.map fun r => r.map storable) m = .ok (p', m') →
    (∀ e ∈ m', RowOk t.longRefs t.columns e.2) ∧ m'.length = m.length + rows0.length
  | [], _, _, _, _, _, _, _, _, hm, h => by cases h; exact ⟨hm, rfl⟩
  | r :: rs, p, m, _, _, hlen, hval, hs, hlr, hm, h => by
    obtain ⟨⟨p1, cells⟩, hc, h2⟩ := Res.bind_eq_ok.mp h
    have hp := createCells_pref t.columns t.columns r 0 p [] p1 cells (by simp)
      (hlen r List.mem_cons_self) (hval r List.mem_cons_self) hs ⟨rfl, fun j hj => absurd hj (by omega)⟩ hc
    obtain ⟨hs1, hl1⟩ := MsiProofs.Loops.createCells_rel sized _ (fun _ _ => trivial) hc
    cases hmi : mapInsert (keyOf t.keyIndices (r.map storable)) cells m with
    | none => simp [hmi] at h2
    | some m1 =>
      simp only [hmi] at h2
      have hp1 := MsiProofs.LoopSpecs.mapInsert_perm hmi
      have hm1 : ∀ e ∈ m1, RowOk t.longRefs t.columns e.2 := fun e he => by
        rcases List.mem_cons.mp (hp1.mem_iff.mp he) with rfl | he
        · rw [← hlr]; simpa [RowOk] using hp
        · exact hm e he
      obtain ⟨h1, h4⟩ := addRows_rowOk t rs (fun x hx => hlen x (List.mem_cons_of_mem _ hx))
        (fun x hx => hval x (List.mem_cons_of_mem _ hx)) (hs1 hs) (hl1.trans hlr) hm1 h2
      exact ⟨h1, by rw [h4, hp1.length_eq]; simp only [List.length_cons]; omega⟩

theorem loadRows_rowOk (s : Pkg) (t : Table) (rows : List (List Cell)) (h : s.loadRows t = .ok rows) :
    ∀ r ∈ rows, RowOk t.longRefs t.columns r := by
  unfold Pkg.loadRows at h
  split at h
  · exact readRows_rowOk t _ rows h
  · simp only [pure, Res.ok.injEq] at h
    subst h
    intro r hr; simp at hr

theorem loadRows_of_data (s : Pkg) (t : Table) (bs : Bytes) (h : dataOf s.cont t.streamName = some bs) :
    s.loadRows t = t.readRows bs := by
  obtain ⟨e, he, hd⟩ := MsiProofs.StreamsMap.find_of_dataOf h
  unfold Pkg.loadRows
  rw [he]
  simp only [hd]

/-- **insert, then read the table**: after a successful `Insert::exec` the table's rows, as the
new state reads them, are — as values — exactly the old rows plus the new ones ("" stored as
null), in strictly ascending key order; and the pool has only been extended.  Hypotheses: the
stored cells refer to live pool entries, the pool is within what its reference width addresses
and agrees with the table on that width, the table has a column. -/
theorem insert_then_load (s : Pkg) (tname : List Char) (rows : List (List Value)) (s' : Pkg)
    (h : insertExec s tname rows = (s', .ok ()))
    (t : Table) (ht : s.findTable tname = some t) (existing : List (List Cell))
    (hl : s.loadRows t = .ok existing) (hlive : ∀ r ∈ existing, ∀ c ∈ r, LiveCell s.pool c)
    (hs : PoolSized s.pool) (hlr : s.pool.longRefs = t.longRefs) (hpos : 0 < t.rowSize) :
    ∃ stored,
      s'.loadRows t = .ok stored ∧
      (∀ v, v ∈ stored.map (rowValues s'.pool) ↔
        v ∈ existing.map (rowValues s.pool) ∨ v ∈ rows.map (fun r => r.map storable)) ∧
      (stored.map fun cells => keyOf t.keyIndices (rowValues s'.pool cells)).Pairwise (fun a b => keyLt a b = true) ∧
      stored.length = existing.length + rows.length ∧
      Ext s.pool s'.pool ∧ (∀ r ∈ stored, ∀ c ∈ r, LiveCell s'.pool c) ∧
      PoolSized s'.pool ∧ s'.pool.longRefs = t.longRefs ∧
      (∃ m m', loadMap s.pool t.keyIndices existing [] = some m ∧
        addRows t.keyIndices s.pool (rows.map fun r => r.map storable) m = .ok (s'.pool, m') ∧
        stored = m'.map (·.2)) := by
  obtain ⟨m, pool', m', bs, hlen, hval, hm, hmax, ha, hw, hs', hsm, hpm, hext, hl', hperm, hsorted⟩ :=
    insert_core h ht hl hlive
  have hmok : ∀ e ∈ m, RowOk t.longRefs t.columns e.2 := fun e he =>
    loadRows_rowOk s t existing hl e.2 (hpm.mem_iff.mp (List.mem_map.mpr ⟨e, he, rfl⟩))
  obtain ⟨hok', hlen'⟩ := addRows_rowOk t rows hlen hval hs hlr hmok ha
  obtain ⟨hs1, hlr1⟩ := MsiProofs.Loops.addRows_rel sized t.keyIndices _ (fun _ _ _ _ => trivial) ha
  have hrowsok : ∀ r ∈ m'.map (·.2), RowOk t.longRefs t.columns r := by
    intro r hr
    obtain ⟨e, he, rfl⟩ := List.mem_map.mp hr
    exact hok' e he
  obtain ⟨bs2, hw2, hr2⟩ := write_read t (m'.map (·.2)) hrowsok hpos (by
    rw [List.length_map, hlen']; exact hmax)
  rw [hw] at hw2
  cases hw2
  subst hs'
  refine ⟨m'.map (·.2), ?_, fun v => hperm.mem_iff.trans List.mem_append, hsorted, ?_, hext, ?_, hs1 hs, hlr1.trans hlr,
    ⟨m, m', hm, ha, rfl⟩⟩
  · rw [loadRows_of_data _ t bs (dataOf_put_same _ _ _)]
    exact hr2
  · simpa using hperm.length_eq
  · intro r hr c hc
    obtain ⟨e, he, rfl⟩ := List.mem_map.mp hr
    exact hl' e he c hc


theorem loadRows_length (s : Pkg) (t : Table) (rows : List (List Cell)) (h : s.loadRows t = .ok rows) :
    rows.length ≤ Gen.maxTableRows := by
  unfold Pkg.loadRows at h
  split at h
  · exact (readRows_spec t _ rows h).2
  · cases h; exact Nat.zero_le _

/-- **delete, then read the table**: after a successful `Delete::exec` the new state reads the
table as exactly the stored rows on which the condition (on their values) is false, with their
values — and those of any other accounted cells — unchanged -/
theorem delete_then_load (s : Pkg) (tname : List Char) (cond : Option Ast) (s' : Pkg)
    (h : deleteExec s tname cond = (s', .ok ()))
    (t : Table) (ht : s.findTable tname = some t) (existing : List (List Cell))
    (hl : s.loadRows t = .ok existing) (others : List Cell)
    (hposr : MsiProofs.RefineDelete.PosRefs (existing.flatten ++ others))
    (hacc : MsiProofs.RefineDelete.Accounted s.pool (existing.flatten ++ others)) (hpos : 0 < t.rowSize) :
    s'.loadRows t = .ok (existing.filter fun r => evalCond t s.pool cond r == .ok false) ∧
    (∀ d ∈ (existing.filter fun r => evalCond t s.pool cond r == .ok false).flatten ++ others,
      Cell.toValue s'.pool d = Cell.toValue s.pool d) ∧
    MsiProofs.RefineDelete.Accounted s'.pool
      ((existing.filter fun r => evalCond t s.pool cond r == .ok false).flatten ++ others) := by
  obtain ⟨bytes, hw, hd, hv, ha, -, -, -⟩ :=
    MsiProofs.RefineDelete.delete_refines s tname cond s' h t ht existing hl others hposr hacc
  refine ⟨?_, hv, ha⟩
  have hok : ∀ r ∈ existing.filter (fun r => evalCond t s.pool cond r == .ok false), RowOk t.longRefs t.columns r :=
    fun r hr => loadRows_rowOk s t existing hl r (List.mem_filter.mp hr).1
  obtain ⟨bs2, hw2, hr2⟩ := write_read t _ hok hpos (by
    have h1 := loadRows_length s t existing hl
    have h2 := List.length_filter_le (fun r => evalCond t s.pool cond r == .ok false) existing
    omega)
  rw [hw] at hw2
  cases hw2
  rw [loadRows_of_data s' t bytes hd]
  exact hr2

end MsiProofs.RefineLoad
