import MsiProofs.Lemmas.GlobalInv
/-
`Update::exec` against the relational reading: one assignment to one cell releases the old
cell's reference and interns the new value — the accounting keeps its slack, every other cell
keeps its value, the row reads as the old row with that column replaced.
-/
namespace MsiProofs.RefineUpdate
open MsiModel MsiModel.Bytes MsiModel.Pkg MsiProofs.Refine MsiProofs.RefineDelete MsiProofs.RefineExact
open MsiProofs.SaveOpen MsiProofs.RowsOk MsiProofs.GlobalInv MsiProofs.Codec

/-- **one assignment within a row whose references the counts cover**: the old cell's reference is
released and the new value interned; the counts move by exactly that, the row reads as before with
the one value replaced, and an entry referred to from outside the row keeps its text -/
theorem assign_row {p : Pool} {cells : List Cell} {i : Nat} {v : Value} {p2 : Pool} {c : Cell}
    (hi : i < cells.length) (hpos : PosRefs cells) (hacc : ∀ q, 0 < q → cells.count (.str q) ≤ p.refcount q)
    (hc : Cell.create (Cell.remove p (cells.getD i .null)) v = .ok (p2, c)) :
    PosRefs (cells.set i c) ∧
    (∀ q, 0 < q → p2.refcount q + cells.count (.str q) = p.refcount q + (cells.set i c).count (.str q) ∧
      (cells.count (.str q) < p.refcount q → p2.get q = p.get q)) ∧
    rowValues p2 (cells.set i c) = (rowValues p cells).set i v := by
  have hold : cells.getD i .null = cells[i] := by simp [List.getD, hi]
  rw [hold] at hc
  have hsplit : cells = cells.take i ++ cells[i] :: cells.drop (i + 1) := by
    rw [← List.drop_eq_getElem_cons hi, List.take_append_drop]
  rw [List.set_eq_take_append_cons_drop, if_pos hi]
  have hal : (cells.take i).length = i := List.length_take_of_le (Nat.le_of_lt hi)
  generalize cells.take i = a at hsplit hal
  generalize cells.drop (i + 1) = b at hsplit
  generalize cells[i] = old at hc hsplit
  subst hsplit
  have hrem := foldl_remove_refcount [old] p (hpos.sub fun _ h => by simp [List.mem_singleton.mp h])
  obtain ⟨hposc, hcre⟩ := create_refcount hc
  obtain ⟨hext, hval, -⟩ := create_ext _ v p2 c hc
  -- the counts, and the text of every entry something besides `old` refers to
  have key : ∀ q, 0 < q →
      p2.refcount q + [old].count (.str q) = p.refcount q + [c].count (.str q) ∧
      ([old].count (.str q) < p.refcount q → p2.get q = p.get q) := by
    intro q hq
    obtain ⟨h1, h2⟩ := hrem q hq
    have h3 := hcre q hq
    have h4 := hacc q hq
    rw [List.count_append, count_cons_single old b] at h4
    change (Cell.remove p old).refcount q = _ at h1
    exact ⟨sub_delta h1 h3 (mid_le h4), fun h => ((hext q (h1 ▸ Nat.sub_pos_of_lt h)).1).trans (h2 h)⟩
  have hv2 : ∀ d ∈ a ++ b, Cell.toValue p2 d = Cell.toValue p d := by
    intro d hd
    refine toValue_of_get d fun q e => ?_
    subst e
    have hq : 0 < q := hpos q (by simp only [List.mem_append, List.mem_cons] at hd ⊢; rcases hd with h | h <;> simp [h])
    have h1 : 1 ≤ (a ++ b).count (.str q) := List.count_pos_iff.mpr hd
    have h4 := hacc q hq
    rw [List.count_append, count_cons_single old b] at h4
    rw [List.count_append] at h1
    exact (key q hq).2 (mid_lt h4 h1)
  refine ⟨fun r hr => ?_, fun q hq => ?_, ?_⟩
  · simp only [List.mem_append, List.mem_cons] at hr
    rcases hr with h | h | h
    · exact hpos r (by simp [h])
    · exact hposc r (by simp [h])
    · exact hpos r (by simp [h])
  · obtain ⟨k1, k2⟩ := key q hq
    simp only [List.count_append, count_cons_single old b, count_cons_single c b]
    exact ⟨delta_mid k1, fun h => k2 (mid_lt' h)⟩
  · unfold rowValues
    simp only [List.map_append, List.map_cons]
    rw [List.set_append_right _ _ (by simp [hal]), List.length_map, hal, Nat.sub_self, List.set_cons_zero, hval]
    congr 1
    · exact List.map_congr_left fun d hd => hv2 d (List.mem_append_left _ hd)
    · exact congrArg _ (List.map_congr_left fun d hd => hv2 d (List.mem_append_right _ hd))

/-- **one assignment to one cell of a row standing among other cells** (`pre`, `post`): release the
old cell, intern the new value, put the new cell in place -/
theorem assign_spec (slack : Nat → Nat) (p : Pool) (pre cells post : List Cell) (i : Nat) (v : Value)
    (hi : i < cells.length) (hpos : PosRefs (pre ++ cells ++ post))
    (hacc : AccountedWith slack p (pre ++ cells ++ post))
    (p2 : Pool) (c : Cell) (hc : Cell.create (Cell.remove p (cells.getD i .null)) v = .ok (p2, c)) :
    AccountedWith slack p2 (pre ++ cells.set i c ++ post) ∧ PosRefs (pre ++ cells.set i c ++ post) ∧
    (∀ d ∈ pre ++ post, Cell.toValue p2 d = Cell.toValue p d) ∧
    rowValues p2 (cells.set i c) = (rowValues p cells).set i v := by
  obtain ⟨h1, h2, h3⟩ := assign_row hi (hpos.sub fun _ h => List.mem_append_left _ (List.mem_append_right _ h))
    (fun q hq => by have := hacc q hq; simp only [List.count_append] at this; omega) hc
  refine ⟨fun q hq => ?_, fun r hr => ?_, fun d hd => ?_, h3⟩
  · have := hacc q hq
    have := (h2 q hq).1
    simp only [List.count_append] at *
    omega
  · simp only [List.mem_append] at hr
    rcases hr with (h | h) | h
    · exact hpos r (by simp [h])
    · exact h1 r h
    · exact hpos r (by simp [h])
  · refine toValue_of_get d fun q e => ?_
    subst e
    have hq : 0 < q := hpos q (mem_drop_mid hd)
    have h4 : 1 ≤ (pre ++ post).count (.str q) := List.count_pos_iff.mpr hd
    have := hacc q hq
    simp only [List.count_append] at this h4
    exact (h2 q hq).2 (by omega)

/-- the assignments applied to a row of values -/
def applyUps (ups : List (Nat × Value)) (vals : List Value) : List Value :=
  ups.foldl (fun vs x => vs.set x.1 x.2) vals

/-- **all assignments to one row**, as a change of the counts -/
theorem cellsUpd_spec : ∀ (us : List (Nat × Value)) {p : Pool} {cells : List Cell} {p' : Pool} {cells' : List Cell},
    (∀ x ∈ us, x.1 < cells.length) → PosRefs cells → (∀ q, 0 < q → cells.count (.str q) ≤ p.refcount q) →
    cellsUpd p cells us = .ok (p', cells') →
    PosRefs cells' ∧ cells'.length = cells.length ∧
    (∀ q, 0 < q → p'.refcount q + cells.count (.str q) = p.refcount q + cells'.count (.str q) ∧
      (cells.count (.str q) < p.refcount q → p'.get q = p.get q)) ∧
    rowValues p' cells' = applyUps us (rowValues p cells)
  | [], _, _, _, _, _, hpos, _, h => by cases h; exact ⟨hpos, rfl, fun _ _ => ⟨rfl, fun _ => rfl⟩, rfl⟩
  | (i, v) :: us, p, cells, _, _, hidx, hpos, hacc, h => by
    obtain ⟨⟨p2, c⟩, hc, h2⟩ := Res.bind_eq_ok.mp h
    obtain ⟨hp2, hd2, hrow2⟩ := assign_row (hidx (i, v) List.mem_cons_self) hpos hacc hc
    obtain ⟨hp3, hlen3, hd3, hrow3⟩ := cellsUpd_spec us
      (fun x hx => by simpa using hidx x (List.mem_cons_of_mem _ hx)) hp2
      (fun q hq => delta_le' (hd2 q hq).1 (hacc q hq)) h2
    refine ⟨hp3, by simpa using hlen3, fun q hq => ?_, by rw [hrow3, hrow2]; rfl⟩
    obtain ⟨a1, a2⟩ := hd2 q hq
    obtain ⟨b1, b2⟩ := hd3 q hq
    exact ⟨delta_comp a1 b1, fun h => (b2 (delta_lt' a1 h)).trans (a2 h)⟩

/-- what `updApply` makes of the rows: matched rows get the assignments, the others stay -/
def applyPlan (ups : List (Nat × Value)) : List (List Value) → List (List Value × Bool) → List (List Value)
  | [], _ => []
  | r :: rs, [] => r :: rs
  | r :: rs, (_, m) :: pl => (if m then applyUps ups r else r) :: applyPlan ups rs pl

/-- **all rows**, as a change of the counts: with the references of the rows covered by the counts,
the loop moves each count by the references given up and taken, the new rows read as the old rows
with the assignments applied to exactly the matched ones, and an entry referred to from outside the
rows keeps its text -/
theorem updApply_spec (ups : List (Nat × Value)) (n : Nat) (hups : ∀ x ∈ ups, x.1 < n) :
    ∀ (rows : List (List Cell)) {p : Pool} {pl : List (List Value × Bool)} {acc : List (List Cell)}
      {p' : Pool} {rows' : List (List Cell)},
    (∀ r ∈ rows, r.length = n) → PosRefs rows.flatten →
    (∀ q, 0 < q → rows.flatten.count (.str q) ≤ p.refcount q) →
    updApply ups p rows pl acc = .ok (p', rows') →
    ∃ news, rows' = acc.reverse ++ news ∧ news.length = rows.length ∧ (∀ r ∈ news, r.length = n) ∧
      PosRefs news.flatten ∧
      (∀ q, 0 < q → p'.refcount q + rows.flatten.count (.str q) = p.refcount q + news.flatten.count (.str q) ∧
        (rows.flatten.count (.str q) < p.refcount q → p'.get q = p.get q)) ∧
      news.map (rowValues p') = applyPlan ups (rows.map (rowValues p)) pl
  | [], _, _, _, _, _, _, _, _, h => by
    cases h
    exact ⟨[], by simp, rfl, fun _ hx => by simp at hx, fun _ hx => by simp at hx,
      fun _ _ => ⟨rfl, fun _ => rfl⟩, rfl⟩
  | r :: rs, _, [], _, _, _, hw, hpos, _, h => by
    cases h
    exact ⟨r :: rs, by simp, rfl, hw, hpos, fun _ _ => ⟨rfl, fun _ => rfl⟩, by simp [applyPlan]⟩
  | r :: rs, p, (_, m) :: pl, acc, p', rows', hw, hpos, hacc, h => by
    have hrn := hw r List.mem_cons_self
    have haccr : ∀ q, 0 < q → r.count (.str q) + rs.flatten.count (.str q) ≤ p.refcount q := fun q hq => by
      have := hacc q hq; simpa only [List.flatten_cons, List.count_append] using this
    -- this row: left as it is, or with the assignments
    obtain ⟨p1, cells', ⟨hp1, hlen1, hd1, hrow1⟩, h2⟩ : ∃ p1 cells',
        (PosRefs cells' ∧ cells'.length = r.length ∧
          (∀ q, 0 < q → p1.refcount q + r.count (.str q) = p.refcount q + cells'.count (.str q) ∧
            (r.count (.str q) < p.refcount q → p1.get q = p.get q)) ∧
          rowValues p1 cells' = if m then applyUps ups (rowValues p r) else rowValues p r) ∧
        updApply ups p1 rs pl (cells' :: acc) = .ok (p', rows') := by
      cases m with
      | false => exact ⟨p, r, ⟨hpos.sub fun _ hc => by simp [hc], rfl, fun _ _ => ⟨rfl, fun _ => rfl⟩, rfl⟩, h⟩
      | true =>
        obtain ⟨⟨p1, cells'⟩, hc, h2⟩ := Res.bind_eq_ok.mp h
        exact ⟨p1, cells', cellsUpd_spec ups (fun x hx => by rw [hrn]; exact hups x hx)
          (hpos.sub fun _ hc => by simp [hc]) (fun q hq => Nat.le_trans (Nat.le_add_right _ _) (haccr q hq)) hc, h2⟩
    have hposrs : PosRefs rs.flatten := hpos.sub fun _ hc => by simp [hc]
    obtain ⟨news, h1, h2', h3, h4, h5, h6⟩ := updApply_spec ups n hups rs
      (fun x hx => hw x (List.mem_cons_of_mem _ hx)) hposrs
      (fun q hq => delta_le (hd1 q hq).1 (haccr q hq)) h2
    -- the row just done, and the rows still to come, read the same across the other's rewriting
    have hkeep : rowValues p' cells' = rowValues p1 cells' := rowValues_of_get fun q hq => by
      have hq0 : 0 < q := hp1 q hq
      exact (h5 q hq0).2 (delta_lt_pos (hd1 q hq0).1 (haccr q hq0) (List.count_pos_iff.mpr hq))
    have hrest : rs.map (rowValues p1) = rs.map (rowValues p) := List.map_congr_left fun x hx =>
      rowValues_of_get fun q hq => by
        have hq0 : 0 < q := hposrs q (List.mem_flatten.mpr ⟨x, hx, hq⟩)
        exact (hd1 q hq0).2 (lt_of_add_le (haccr q hq0) (List.count_pos_iff.mpr (List.mem_flatten.mpr ⟨x, hx, hq⟩)))
    refine ⟨cells' :: news, by rw [h1]; simp, by simp [h2'], ?_, ?_, fun q hq => ?_, ?_⟩
    · exact fun x hx => (List.mem_cons.mp hx).elim (fun e => e ▸ hlen1.trans hrn) (h3 x)
    · exact fun q hq => (List.mem_append.mp (by simpa using hq)).elim (hp1 q) (h4 q)
    · obtain ⟨a1, a2⟩ := hd1 q hq
      obtain ⟨b1, b2⟩ := h5 q hq
      simp only [List.flatten_cons, List.count_append]
      exact ⟨delta_trans a1 b1, fun h => (b2 (delta_lt a1 h)).trans (a2 (Nat.lt_of_le_of_lt (Nat.le_add_right _ _) h))⟩
    · simp only [List.map_cons, applyPlan, hkeep, hrow1, h6, hrest]


/-! ### the new cells fit their columns -/

/-- every assignment names a column of the table and a value that column accepts ("" as null) -/
def UpsOk (cols : List Column) (us : List (Nat × Value)) : Prop :=
  ∀ x ∈ us, ∃ col v0, cols[x.1]? = some col ∧ x.2 = storable v0 ∧ col.isValidValue v0 = true

theorem pref_set (long : Bool) (cols : List Column) (cells : List Cell) (i : Nat) (c : Cell) (col : Column)
    (hp : RowOk long cols cells) (hcol : cols[i]? = some col) (hc : Storable long col.coltype c) :
    RowOk long cols (cells.set i c) := by
  obtain ⟨hl, hj⟩ := hp
  refine ⟨by simpa using hl, ?_⟩
  intro j hjlt
  by_cases hji : j = i
  · subst hji
    refine ⟨c, col, ?_, hcol, hc⟩
    rw [List.getElem?_set_self (by omega)]
  · obtain ⟨c', col', h1, h2, h3⟩ := hj j hjlt
    exact ⟨c', col', by rw [List.getElem?_set_ne (fun e => hji e.symm)]; exact h1, h2, h3⟩

theorem cellsUpd_rowOk (cols : List Column) : ∀ (us : List (Nat × Value)), UpsOk cols us →
    ∀ {p : Pool} {cells : List Cell} {p' : Pool} {cells' : List Cell},
    PoolSized p → RowOk p.longRefs cols cells → cellsUpd p cells us = .ok (p', cells') →
    RowOk p.longRefs cols cells'
  | [], _, _, _, _, _, _, hr, h => by cases h; exact hr
  | (i, v) :: us, hus, p, cells, _, _, hs, hr, h => by
    obtain ⟨col, v0, hcol, hv, hval⟩ := hus (i, v) List.mem_cons_self
    obtain ⟨⟨p2, c⟩, hc, h2⟩ := Res.bind_eq_ok.mp h
    obtain ⟨hs1, hl1⟩ := MsiProofs.Loops.remove_rel sized p (cells.getD i .null)
    obtain ⟨hs2, hl2⟩ := MsiProofs.Loops.create_rel sized (fun _ _ => trivial) hc
    simp only at hcol hv
    subst hv
    have hst := create_storable _ col v0 p2 c (hs1 hs) hval hc
    rw [hl1] at hst
    have hr2 : RowOk p2.longRefs cols (cells.set i c) := by
      rw [hl2, hl1]; exact pref_set p.longRefs cols cells i c col hr hcol hst
    have h1 := cellsUpd_rowOk cols us (fun x hx => hus x (List.mem_cons_of_mem _ hx)) (hs2 (hs1 hs)) hr2 h2
    rwa [hl2, hl1] at h1

theorem updApply_rowOk (cols : List Column) (ups : List (Nat × Value)) (hus : UpsOk cols ups) :
    ∀ (rows : List (List Cell)) {p : Pool} {pl : List (List Value × Bool)} {acc : List (List Cell)}
      {p' : Pool} {rows' : List (List Cell)},
    PoolSized p → (∀ r ∈ rows, RowOk p.longRefs cols r) → (∀ r ∈ acc, RowOk p.longRefs cols r) →
    updApply ups p rows pl acc = .ok (p', rows') → ∀ r ∈ rows', RowOk p.longRefs cols r
  | [], _, _, _, _, _, _, _, hacc, h => by
    cases h; exact fun r hr => hacc r (List.mem_reverse.mp hr)
  | r :: rs, _, [], _, _, _, _, hrows, hacc, h => by
    cases h
    intro x hx
    rcases List.mem_append.mp hx with hx | hx
    · exact (List.mem_cons.mp (List.mem_reverse.mp hx)).elim (fun e => e ▸ hrows r List.mem_cons_self) (hacc x)
    · exact hrows x (List.mem_cons_of_mem _ hx)
  | r :: rs, p, (_, m) :: pl, acc, p', rows', hs, hrows, hacc, h => by
    -- this row: left as it is, or with the assignments
    obtain ⟨p1, cells', ⟨hr1, hs1, hl1⟩, h2⟩ : ∃ p1 cells',
        (RowOk p.longRefs cols cells' ∧ PoolSized p1 ∧ p1.longRefs = p.longRefs) ∧
        updApply ups p1 rs pl (cells' :: acc) = .ok (p', rows') := by
      cases m with
      | false => exact ⟨p, r, ⟨hrows r List.mem_cons_self, hs, rfl⟩, h⟩
      | true =>
        obtain ⟨⟨p1, cells'⟩, hc, h2⟩ := Res.bind_eq_ok.mp h
        obtain ⟨hs1, hl1⟩ := MsiProofs.Loops.cellsUpd_rel sized ups (fun _ _ _ _ => trivial) hc
        exact ⟨p1, cells', ⟨cellsUpd_rowOk cols ups hus hs (hrows r List.mem_cons_self) hc, hs1 hs, hl1⟩, h2⟩
    have h1 := updApply_rowOk cols ups hus rs hs1
      (fun x hx => by rw [hl1]; exact hrows x (List.mem_cons_of_mem _ hx))
      (fun x hx => by rw [hl1]; exact (List.mem_cons.mp hx).elim (fun e => e ▸ hr1) (hacc x)) h2
    rwa [hl1] at h1


/-! ### `Update::exec` -/

/-- the assignments as (column index, stored value) -/
def upsOf (t : Table) (updates : List (List Char × Value)) : List (Nat × Value) :=
  updates.filterMap fun x => (t.indexOfColumn x.1).map fun i => (i, storable x.2)

theorem writeOrder_perm (t : Table) (ups : List (Nat × Value)) (planned : List (List Value × Bool)) (n : Nat) :
    (Exec.writeOrder t ups planned n).Perm (List.range n) := by
  unfold Exec.writeOrder
  split
  · exact MsiProofs.C05.sortByKey_perm _ _
  · exact List.Perm.refl _

theorem updateExec_ok_inv {s : Pkg} {tname : List Char} {updates : List (List Char × Value)} {cond : Option Ast}
    {s' : Pkg} (h : updateExec s tname updates cond = (s', .ok ()))
    {t : Table} (ht : s.findTable tname = some t) {rows : List (List Cell)} (hl : s.loadRows t = .ok rows) :
    ∃ (planned : List (List Value × Bool)) (pool' : Pool) (rows' : List (List Cell)) (bs : Bytes),
      validateUpdates t updates = none ∧ condMissing t cond = false ∧
      updPlan t s.pool cond (upsOf t updates) rows [] = .ok planned ∧
      Exec.dupKeys t (upsOf t updates) planned rows.length = false ∧
      updApply (upsOf t updates) s.pool rows planned [] = .ok (pool', rows') ∧
      t.writeRows ((Exec.writeOrder t (upsOf t updates) planned rows.length).map fun i => rows'.getD i []) = .ok bs ∧
      s' = { s with pool := pool', cont := Cont.put s.cont t.streamName bs } := by
  rw [Exec.updateExec_eq] at h
  obtain ⟨t', pool', out, bs, hf, hp, hw, hs'⟩ := Exec.onTable_ok.mp h
  rw [ht] at hf; cases hf
  obtain ⟨rows0, planned, rows', hv, hm, hl', hpl, hd, hu, rfl⟩ := Exec.updatePlan_ok.mp hp
  rw [hl] at hl'; cases hl'
  exact ⟨planned, pool', rows', bs, hv, hm, hpl, hd, hu, hw, hs'⟩

theorem validateUpdates_none (t : Table) : ∀ (updates : List (List Char × Value)), validateUpdates t updates = none →
    ∀ x ∈ updates, ∃ i c, t.indexOfColumn x.1 = some i ∧ t.columns[i]? = some c ∧ c.isValidValue x.2 = true
  | [], _, _, hx => nomatch hx
  | (n, v) :: rest, h, x, hx => by
    simp only [validateUpdates] at h
    cases hi : t.indexOfColumn n with
    | none => simp [hi] at h
    | some i =>
      simp only [hi] at h
      cases hc : t.columns[i]? with
      | none => simp [hc] at h
      | some c =>
        simp only [hc] at h
        split at h
        · rename_i hv
          rcases List.mem_cons.mp hx with rfl | hx
          · exact ⟨i, c, hi, hc, hv⟩
          · exact validateUpdates_none t rest h x hx
        · cases h

theorem upsOf_ok (t : Table) (updates : List (List Char × Value)) (h : validateUpdates t updates = none) :
    UpsOk t.columns (upsOf t updates) ∧ ∀ x ∈ upsOf t updates, x.1 < t.columns.length := by
  have hok : UpsOk t.columns (upsOf t updates) := by
    intro x hx
    obtain ⟨u, hu, hxu⟩ := List.mem_filterMap.mp hx
    obtain ⟨i, c, h1, h2, h3⟩ := validateUpdates_none t updates h u hu
    simp only [h1, Option.map_some, Option.some.injEq] at hxu
    subst hxu
    exact ⟨c, u.2, h2, rfl, h3⟩
  exact ⟨hok, fun x hx => let ⟨_, _, h2, _⟩ := hok x hx; (List.getElem?_eq_some_iff.mp h2).1⟩

theorem range_map_getD {α} (l : List α) (d : α) : (List.range l.length).map (fun i => l.getD i d) = l := by
  apply List.ext_getElem
  · simp
  · intro i h1 h2
    simp only [List.length_map, List.length_range] at h1
    simp [h1]

theorem map_getD_perm (l : List (List Cell)) (order : List Nat) (h : order.Perm (List.range l.length)) :
    (order.map fun i => l.getD i []).Perm l := by
  have := h.map (fun i => l.getD i [])
  rw [range_map_getD] at this
  exact this

theorem applyPlan_plan (t : Table) (p : Pool) (cond : Option Ast) (ups : List (Nat × Value)) :
    ∀ rows : List (List Cell), applyPlan ups (rows.map (rowValues p)) (rows.map (LoopSpecs.planRow t p cond ups)) =
      (rows.map (LoopSpecs.planRow t p cond ups)).map (·.1)
  | [] => rfl
  | r :: rs => by
    simp only [List.map_cons, applyPlan, applyPlan_plan t p cond ups rs]
    rfl

/-- **`Update::exec`, then read the table**, with the rows in the order `updApply` left them
(`rows'`) and the order they were written in: the new state reads `rows'` in write order; as values
`rows'` are the planned rows; the accounting keeps its slack; every other cell keeps its value -/
theorem update_core (slack : Nat → Nat) {s : Pkg} {tname : List Char} {updates : List (List Char × Value)}
    {cond : Option Ast} {s' : Pkg} (h : updateExec s tname updates cond = (s', .ok ()))
    {t : Table} (ht : s.findTable tname = some t) {rows : List (List Cell)} (hl : s.loadRows t = .ok rows)
    (others : List Cell) (hposr : PosRefs (rows.flatten ++ others))
    (hacc : AccountedWith slack s.pool (rows.flatten ++ others))
    (hs : PoolSized s.pool) (hlr : s.pool.longRefs = t.longRefs) (hpos : 0 < t.rowSize) :
    ∃ (rows' : List (List Cell)) (bs : Bytes), rows'.length = rows.length ∧
      Exec.dupKeys t (upsOf t updates) (rows.map (LoopSpecs.planRow t s.pool cond (upsOf t updates))) rows.length = false ∧
      s' = { s with pool := s'.pool, cont := Cont.put s.cont t.streamName bs } ∧
      s'.loadRows t = .ok ((Exec.writeOrder t (upsOf t updates)
        (rows.map (LoopSpecs.planRow t s.pool cond (upsOf t updates))) rows.length).map fun i => rows'.getD i []) ∧
      rows'.map (rowValues s'.pool) = (rows.map (LoopSpecs.planRow t s.pool cond (upsOf t updates))).map (·.1) ∧
      AccountedWith slack s'.pool (rows'.flatten ++ others) ∧ PosRefs (rows'.flatten ++ others) ∧
      (∀ d ∈ others, Cell.toValue s'.pool d = Cell.toValue s.pool d) ∧
      PoolSized s'.pool ∧ s'.pool.longRefs = s.pool.longRefs := by
  obtain ⟨planned, pool', rows', bs, hv, hm, hp, hdup, hu, hw, hs'⟩ := updateExec_ok_inv h ht hl
  have hpl := LoopSpecs.updPlan_eq hp
  simp only [List.reverse_nil, List.nil_append] at hpl
  subst hpl
  obtain ⟨husok, hidx⟩ := upsOf_ok t updates hv
  have hacc' : ∀ q, 0 < q →
      rows.flatten.count (.str q) + others.count (.str q) + slack q = s.pool.refcount q := fun q hq => by
    have := hacc q hq; rwa [List.count_append] at this
  obtain ⟨news, h1, h2, -, h4, h5, h7⟩ := updApply_spec (upsOf t updates) t.columns.length hidx rows
    (MsiProofs.C09.loadRows_width s t rows hl) (hposr.sub fun _ hc => List.mem_append_left _ hc)
    (fun q hq => acc_le (hacc' q hq)) hu
  simp only [List.reverse_nil, List.nil_append] at h1
  subst h1
  have hr1 := updApply_rowOk t.columns (upsOf t updates) husok rows hs
    (by rw [hlr]; exact MsiProofs.RefineLoad.loadRows_rowOk s t rows hl) (fun _ hx => by simp at hx) hu
  obtain ⟨hs1, hl1⟩ := MsiProofs.Loops.updApply_rel sized _ (fun _ _ _ _ => trivial) rows hu
  rw [hlr] at hr1
  have hfperm : ((Exec.writeOrder t (upsOf t updates) (rows.map (LoopSpecs.planRow t s.pool cond (upsOf t updates)))
      rows.length).map fun i => rows'.getD i []).Perm rows' :=
    map_getD_perm rows' _ (by rw [h2]; exact writeOrder_perm t _ _ _)
  obtain ⟨bs2, hw2, hr2⟩ := write_read t _ (fun r hr => hr1 r (hfperm.mem_iff.mp hr)) hpos (by
    rw [hfperm.length_eq, h2]
    exact MsiProofs.RefineLoad.loadRows_length s t rows hl)
  rw [hw] at hw2
  cases hw2
  subst hs'
  refine ⟨rows', bs, h2, hdup, rfl, ?_, by rw [h7, applyPlan_plan], fun q hq => ?_, fun r hr => ?_, fun d hd => ?_,
    hs1 hs, hl1⟩
  · rw [MsiProofs.RefineLoad.loadRows_of_data _ t bs (dataOf_put_same _ _ _)]
    exact hr2
  · rw [List.count_append]
    exact acc_delta (hacc' q hq) (h5 q hq).1
  · exact (List.mem_append.mp hr).elim (h4 r) fun h => hposr r (List.mem_append_right _ h)
  · refine toValue_of_get d fun q e => ?_
    subst e
    have hq : 0 < q := hposr q (List.mem_append_right _ hd)
    exact (h5 q hq).2 (acc_lt (hacc' q hq) (List.count_pos_iff.mpr hd))

/-- **`Update::exec`, then read the table**: with the references of the table's cells and of any
other cells of interest accounted (`slack`), after a successful update the new state reads the
table as a re-ordering (`final`) of rows (`rows'`) that are, as values, the old rows with the
assignments ("" as null) applied to exactly the rows the plan marks; the accounting keeps the same
slack; every other cell keeps its value; no other stream is touched -/
theorem update_then_load (slack : Nat → Nat) (s : Pkg) (tname : List Char) (updates : List (List Char × Value))
    (cond : Option Ast) (s' : Pkg) (h : updateExec s tname updates cond = (s', .ok ()))
    (t : Table) (ht : s.findTable tname = some t) (rows : List (List Cell)) (hl : s.loadRows t = .ok rows)
    (others : List Cell) (hposr : PosRefs (rows.flatten ++ others))
    (hacc : AccountedWith slack s.pool (rows.flatten ++ others))
    (hs : PoolSized s.pool) (hlr : s.pool.longRefs = t.longRefs) (hpos : 0 < t.rowSize) :
    ∃ planned rows' final,
      updPlan t s.pool cond (upsOf t updates) rows [] = .ok planned ∧
      s'.loadRows t = .ok final ∧ final.Perm rows' ∧
      rows'.map (rowValues s'.pool) = applyPlan (upsOf t updates) (rows.map (rowValues s.pool)) planned ∧
      AccountedWith slack s'.pool (final.flatten ++ others) ∧ PosRefs (final.flatten ++ others) ∧
      (∀ d ∈ others, Cell.toValue s'.pool d = Cell.toValue s.pool d) ∧
      (∀ n, key t.streamName ≠ key n → dataOf s'.cont n = dataOf s.cont n) ∧
      s'.tables = s.tables ∧ PoolSized s'.pool ∧ s'.pool.longRefs = s.pool.longRefs := by
  obtain ⟨planned, _, _, _, -, -, hp, -⟩ := updateExec_ok_inv h ht hl
  have hpl := LoopSpecs.updPlan_eq hp
  simp only [List.reverse_nil, List.nil_append] at hpl
  obtain ⟨rows', bs, hlen, -, hs', hload, hvals, hacc', hpos', hv, hsz, hlong⟩ :=
    update_core slack h ht hl others hposr hacc hs hlr hpos
  have hfperm : ((Exec.writeOrder t (upsOf t updates) planned rows.length).map fun i => rows'.getD i []).Perm rows' :=
    map_getD_perm rows' _ (by rw [hlen]; exact writeOrder_perm t _ _ _)
  obtain ⟨htabs, hframe⟩ := put_frame hs'
  rw [← hpl] at hload hvals
  exact ⟨planned, rows', _, hp, hload, hfperm, by rw [hvals, hpl, applyPlan_plan],
    accountedWith_perm (List.Perm.append_right _ hfperm.flatten.symm) hacc',
    fun r hr => hpos' r ((List.Perm.append_right others hfperm.flatten).mem_iff.mp hr), hv, hframe, htabs, hsz, hlong⟩

end MsiProofs.RefineUpdate
