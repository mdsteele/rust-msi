import MsiProofs.Lemmas.Frame
import MsiProofs.Lemmas.SortUpd
import Batteries.Data.List.Perm
/-
Refinement to the relational model (property C03).  The *view* of a package is what the API
shows of its tables: for every table definition, its rows as values.  Each statement —
`Insert::exec`, `Delete::exec`, `Update::exec` — changes the view exactly as the plain relational
model says, in every state satisfying the package invariant:

* insert: the target table's rows become a permutation of the old rows plus the given rows
  ("" stored as null), in strictly ascending key order;
* delete: exactly the rows on which the condition (evaluated on the row's values) is false
  remain, in order;
* update: a permutation of the old rows with the assignments applied to exactly the rows on
  which the condition is true, in strictly ascending key order;
* every other table shows exactly the same rows, the table list is the same, and a refused
  statement changes nothing at all.

Strictly ascending lists that are permutations of each other are equal (`ascending_perm_unique`),
so "ascending + permutation of X" determines the result list uniquely: the view after a statement
is a function of the view before it and of the statement.
-/
namespace MsiProofs.Relational
open MsiModel MsiModel.Bytes MsiModel.Pkg MsiProofs.GlobalInv MsiProofs.SortedInv MsiProofs.Frame
open MsiProofs.Refine MsiProofs.RefineDelete MsiProofs.RefineExact MsiProofs.RowsOk MsiProofs.SaveOpen
open MsiProofs.RefineUpdate

/-- the rows of a table as the API reports them: values, not cells -/
def tableView (s : Pkg) (t : Table) : List (List Value) := (rowsOf s t).map (rowValues s.pool)

/-- the abstract database: every table definition with its rows -/
def view (s : Pkg) : List (Table × List (List Value)) := s.tables.map fun t => (t, tableView s t)

def keyV (t : Table) (vals : List Value) : List Value := keyOf t.keyIndices vals

/-- strictly ascending key order -/
def Ascending (t : Table) (rows : List (List Value)) : Prop :=
  (rows.map (keyV t)).Pairwise fun a b => keyLt a b = true

theorem tableView_ok {s : Pkg} {t : Table} {rows : List (List Cell)} (h : s.loadRows t = .ok rows) :
    tableView s t = rows.map (rowValues s.pool) := by
  unfold tableView; rw [rowsOf_ok h]

theorem ascending_of_keys {p : Pool} {t : Table} {rows : List (List Cell)} (h : KeysAscending p t rows) :
    Ascending t (rows.map (rowValues p)) := by
  unfold Ascending keyV
  unfold KeysAscending at h
  rw [List.map_map]
  exact h

theorem view_ascending (s : Pkg) (hS : SortedAll s) (t : Table) (ht : t ∈ s.tables) : Ascending t (tableView s t) := by
  unfold tableView rowsOf
  cases hl : s.loadRows t with
  | ok rows => exact ascending_of_keys (hS t ht rows hl)
  | err k => simp [Ascending]
  | panic w => simp [Ascending]

theorem ascending_nodup {t : Table} {rows : List (List Value)} (h : Ascending t rows) : rows.Nodup := by
  unfold Ascending at h
  rw [List.pairwise_map] at h
  exact h.imp fun hab e => by rw [e, MsiProofs.Order.keyLt_irrefl] at hab; cases hab

/-- **ascending order + the same rows = the same list**: the relational result is unique -/
theorem ascending_perm_unique (t : Table) : ∀ (l1 l2 : List (List Value)), Ascending t l1 → Ascending t l2 →
    l1.Perm l2 → l1 = l2
  | [], l2, _, _, hp => by rw [List.nil_perm] at hp; exact hp.symm
  | a :: l1, [], _, _, hp => by rw [List.perm_nil] at hp; cases hp
  | a :: l1, b :: l2, h1, h2, hp => by
    unfold Ascending at h1 h2
    simp only [List.map_cons, List.pairwise_cons, List.mem_map, forall_exists_index, and_imp,
      forall_apply_eq_imp_iff₂] at h1 h2
    have hab : a = b := by
      have ha : a ∈ b :: l2 := hp.subset (List.mem_cons_self ..)
      have hb : b ∈ a :: l1 := hp.symm.subset (List.mem_cons_self ..)
      simp only [List.mem_cons] at ha hb
      rcases ha with rfl | ha
      · rfl
      · rcases hb with rfl | hb
        · rfl
        · have x1 := h2.1 a ha
          have x2 := h1.1 b hb
          rw [MsiProofs.Order.keyLt_asymm x1] at x2; cases x2
    subst hab
    have := ascending_perm_unique t l1 l2 h1.2 h2.2 (List.Perm.cons_inv hp)
    rw [this]

theorem perm_of_mem_iff {α} [DecidableEq α] (R L : List α) (hn : R.Nodup) (hm : ∀ a, a ∈ R ↔ a ∈ L)
    (hl : R.length = L.length) : R.Perm L :=
  (List.subperm_of_subset hn fun a ha => (hm a).mp ha).perm_of_length_le (by omega)

theorem others_same {s s' : Pkg} {tname : List Char} (hk : Kept s s' tname) :
    ∀ x ∈ s.tables, x.name ≠ tname → tableView s' x = tableView s x := by
  intro x hx hne
  unfold tableView rowsOf
  rw [hk.rows x hx hne]
  cases hlx : s.loadRows x with
  | ok rws =>
    simp only
    exact List.map_congr_left fun r hr => hk.vals x hx hne rws hlx r hr
  | err k => rfl
  | panic w => rfl


/-- **`Insert::exec` refines the relational insert** -/
theorem insert_view (slack : Nat → Nat) (s : Pkg) (hI : Inv slack s) (tname : List Char)
    (rows : List (List Value)) (s' : Pkg) (h : insertExec s tname rows = (s', .ok ()))
    (t : Table) (ht : s.findTable tname = some t) :
    s'.tables = s.tables ∧
    (tableView s' t).Perm (tableView s t ++ rows.map fun r => r.map storable) ∧
    Ascending t (tableView s' t) ∧
    (∀ x ∈ s.tables, x.name ≠ tname → tableView s' x = tableView s x) := by
  have htm := MsiProofs.Synced.findTable_mem ht
  obtain ⟨existing, hl⟩ := hI.loads t htm
  have hliveAll := live_of_accounted slack s.pool _ hI.pos hI.counts
  have hlive : ∀ r ∈ existing, ∀ c ∈ r, LiveCell s.pool c :=
    fun r hr c hc => hliveAll c (cell_mem_tables htm hl hr hc)
  obtain ⟨hlr, hrs⟩ := hI.widths t htm
  obtain ⟨stored, hl', hmem, hsorted, hlen, -⟩ :=
    MsiProofs.RefineLoad.insert_then_load s tname rows s' h t ht existing hl hlive hI.sized hlr hrs
  have hk := insert_kept slack s tname rows s' hI h
  have hasc : Ascending t (tableView s' t) := by
    rw [tableView_ok hl']; exact ascending_of_keys hsorted
  refine ⟨hk.tables, ?_, hasc, others_same hk⟩
  apply perm_of_mem_iff _ _ (ascending_nodup hasc)
  · intro v
    rw [tableView_ok hl', tableView_ok hl, List.mem_append]
    exact hmem v
  · rw [tableView_ok hl', tableView_ok hl]
    simp only [List.length_map, List.length_append]
    exact hlen

/-- **`Delete::exec` refines the relational delete**: exactly the rows on which the condition,
evaluated on the row's values, is false remain — in order, with their values -/
theorem delete_view (slack : Nat → Nat) (s : Pkg) (hI : Inv slack s) (tname : List Char)
    (cond : Option Ast) (s' : Pkg) (h : deleteExec s tname cond = (s', .ok ()))
    (t : Table) (ht : s.findTable tname = some t) :
    s'.tables = s.tables ∧
    tableView s' t = (tableView s t).filter (fun vals => condV t cond vals == .ok false) ∧
    (∀ x ∈ s.tables, x.name ≠ tname → tableView s' x = tableView s x) := by
  have htm := MsiProofs.Synced.findTable_mem ht
  obtain ⟨existing, hl⟩ := hI.loads t htm
  obtain ⟨others, hpos, hacc⟩ := cells_split hI htm hl
  obtain ⟨-, hrs⟩ := hI.widths t htm
  obtain ⟨hl', hv, -⟩ := MsiProofs.RefineLoad.delete_then_load s tname cond s' h t ht existing hl others hpos
    (hacc.accounted hpos) hrs
  have hk := delete_kept slack s tname cond s' hI h
  refine ⟨hk.tables, ?_, others_same hk⟩
  rw [tableView_ok hl', tableView_ok hl, List.filter_map]
  have hf : (fun r => evalCond t s.pool cond r == .ok false) =
      ((fun vals => condV t cond vals == .ok false) ∘ rowValues s.pool) := by
    funext r; simp only [Function.comp, evalCond_eq]
  rw [← hf]
  exact List.map_congr_left fun r hr => List.map_congr_left fun c hc =>
    hv c (List.mem_append_left _ (List.mem_flatten.mpr ⟨r, hr, hc⟩))


/-- what the relational model makes of one row under an UPDATE -/
def updRow (t : Table) (cond : Option Ast) (ups : List (Nat × Value)) (vals : List Value) : List Value :=
  if condV t cond vals == .ok true then applyUps ups vals else vals

theorem planRow_fst (t : Table) (p : Pool) (cond : Option Ast) (ups : List (Nat × Value)) (r : List Cell) :
    (MsiProofs.LoopSpecs.planRow t p cond ups r).1 = updRow t cond ups (rowValues p r) := by
  unfold MsiProofs.LoopSpecs.planRow updRow
  rw [evalCond_eq]
  rfl

/-- **`Update::exec` refines the relational update**: the table's rows become a permutation of the
old rows with the assignments ("" as null) applied to exactly the rows on which the condition is
true, in strictly ascending key order -/
theorem update_view (slack : Nat → Nat) (s : Pkg) (hI : Inv slack s) (hS : SortedAll s) (tname : List Char)
    (updates : List (List Char × Value)) (cond : Option Ast) (s' : Pkg)
    (h : updateExec s tname updates cond = (s', .ok ()))
    (t : Table) (ht : s.findTable tname = some t) :
    s'.tables = s.tables ∧
    (tableView s' t).Perm ((tableView s t).map (updRow t cond (upsOf t updates))) ∧
    Ascending t (tableView s' t) ∧
    (∀ x ∈ s.tables, x.name ≠ tname → tableView s' x = tableView s x) := by
  have htm := MsiProofs.Synced.findTable_mem ht
  obtain ⟨existing, hl⟩ := hI.loads t htm
  obtain ⟨others, hpos, hacc⟩ := cells_split hI htm hl
  obtain ⟨hlr, hrs⟩ := hI.widths t htm
  obtain ⟨planned, rows', final, hp, hl', hperm, hvals, -, -, -, -, htabs, -⟩ :=
    update_then_load slack s tname updates cond s' h t ht existing hl others hpos hacc hI.sized hlr hrs
  have hk := update_kept slack s tname updates cond s' hI h
  have hS' := MsiProofs.SortUpd.update_sorted slack s tname updates cond s' hI hS h
  refine ⟨htabs, ?_, view_ascending s' hS' t (by rw [htabs]; exact htm), others_same hk⟩
  have hpl := MsiProofs.LoopSpecs.updPlan_eq hp
  simp only [List.reverse_nil, List.nil_append] at hpl
  rw [hpl, applyPlan_plan, List.map_map] at hvals
  have hrows : rows'.map (rowValues s'.pool) = (existing.map (rowValues s.pool)).map (updRow t cond (upsOf t updates)) := by
    rw [hvals, List.map_map]
    exact List.map_congr_left fun r _ => planRow_fst t s.pool cond _ r
  rw [tableView_ok hl', tableView_ok hl, ← hrows]
  exact hperm.map _


/-! ### statements, accepted or refused; histories -/

open MsiProofs.GlobalInvUpd in
/-- what the call returns -/
def reply (s : Pkg) : MsiProofs.GlobalInvUpd.Op → Res Unit
  | .insert t rows => (insertExec s t rows).2
  | .delete t cond => (deleteExec s t cond).2
  | .update t ups cond => (updateExec s t ups cond).2

/-- **the relational model of one statement**: what table `t` holds afterwards (`new`), given what
it held before (`old`) -/
def SpecResult (t : Table) : MsiProofs.GlobalInvUpd.Op → List (List Value) → List (List Value) → Prop
  | .insert _ rows, old, new => new.Perm (old ++ rows.map fun r => r.map storable) ∧ Ascending t new
  | .delete _ cond, old, new => new = old.filter fun vals => condV t cond vals == .ok false
  | .update _ ups cond, old, new => new.Perm (old.map (updRow t cond (upsOf t ups))) ∧ Ascending t new

theorem specResult_unique (t : Table) (op : MsiProofs.GlobalInvUpd.Op) (old n1 n2 : List (List Value))
    (h1 : SpecResult t op old n1) (h2 : SpecResult t op old n2) : n1 = n2 := by
  cases op with
  | insert _ rows => exact ascending_perm_unique t n1 n2 h1.2 h2.2 (h1.1.trans h2.1.symm)
  | delete _ cond => rw [h1, h2]
  | update _ ups cond => exact ascending_perm_unique t n1 n2 h1.2 h2.2 (h1.1.trans h2.1.symm)

/-- one statement, from state `s` to state `s'` with the given reply, behaves as the relational
model says -/
structure Refines (s s' : Pkg) (op : MsiProofs.GlobalInvUpd.Op) (r : Res Unit) : Prop where
  tables : s'.tables = s.tables
  others : ∀ x ∈ s.tables, x.name ≠ target op → tableView s' x = tableView s x
  refused : r ≠ .ok () → s' = s
  accepted : r = .ok () → ∃ t, s.findTable (target op) = some t ∧
    SpecResult t op (tableView s t) (tableView s' t)

/-- **every statement refines the relational model**, in every state with the package invariant
and ascending keys -/
theorem op_refines (slack : Nat → Nat) (s : Pkg) (hI : Inv slack s) (hS : SortedAll s)
    (op : MsiProofs.GlobalInvUpd.Op) : Refines s (op.run s) op (reply s op) := by
  have hk := op_kept slack s hI op
  refine ⟨hk.tables, others_same hk, ?_, ?_⟩
  · intro hr
    cases op with
    | insert t rows => exact insert_refused_noop slack s t rows hI hr
    | delete t cond => exact delete_refused_noop slack s t cond hI hr
    | update t ups cond => exact MsiProofs.GlobalInvUpd.update_refused_noop slack s t ups cond hI hr
  · intro hr
    cases op with
    | insert tn rows =>
      have h : insertExec s tn rows = ((insertExec s tn rows).1, .ok ()) := by rw [← hr]; rfl
      obtain ⟨t, hf⟩ := onTable_table (Exec.insertExec_eq s tn rows ▸ h)
      obtain ⟨-, h2, h3, -⟩ := insert_view slack s hI tn rows _ h t hf
      exact ⟨t, hf, h2, h3⟩
    | delete tn cond =>
      have h : deleteExec s tn cond = ((deleteExec s tn cond).1, .ok ()) := by rw [← hr]; rfl
      obtain ⟨t, hf⟩ := onTable_table (Exec.deleteExec_eq s tn cond ▸ h)
      obtain ⟨-, h2, -⟩ := delete_view slack s hI tn cond _ h t hf
      exact ⟨t, hf, h2⟩
    | update tn ups cond =>
      have h : updateExec s tn ups cond = ((updateExec s tn ups cond).1, .ok ()) := by rw [← hr]; rfl
      obtain ⟨t, hf⟩ := onTable_table (Exec.updateExec_eq s tn ups cond ▸ h)
      obtain ⟨-, h2, h3, -⟩ := update_view slack s hI hS tn ups cond _ h t hf
      exact ⟨t, hf, h2, h3⟩

/-- **every step of every history refines the relational model**: whatever statements came before
(accepted or refused, on any tables), the next one changes the view exactly as the model says -/
theorem history_refines (slack : Nat → Nat) (s : Pkg) (hI : Inv slack s) (hS : SortedAll s)
    (before : List MsiProofs.GlobalInvUpd.Op) (op : MsiProofs.GlobalInvUpd.Op) :
    Refines (before.foldl MsiProofs.GlobalInvUpd.Op.run s) (op.run (before.foldl MsiProofs.GlobalInvUpd.Op.run s)) op
      (reply (before.foldl MsiProofs.GlobalInvUpd.Op.run s) op) := by
  obtain ⟨hi', hs'⟩ := MsiProofs.SortUpd.history_sorted slack before s hI hS
  exact op_refines slack _ hi' hs' op

end MsiProofs.Relational
