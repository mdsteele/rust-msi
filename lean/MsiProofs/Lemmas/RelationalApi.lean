import MsiProofs.Lemmas.Lifecycle
import MsiProofs.Lemmas.ValidCells
import MsiProofs.Lemmas.Exec
/-
The relational view through `create_table` and `drop_table` (properties C03, C04, C05), built on the
frame of a single statement (`op_frame`): whatever a statement run through the row API does, it
does to its own table and that table's stream.

* `create_table`, accepted: the table list gains the new definition, which shows no rows; every
  user table shows exactly the rows it showed (only the three catalog tables change);
* `drop_table`, accepted: the table list loses that definition; every other user table shows
  exactly the rows it showed.
-/
namespace MsiProofs.RelationalApi
open MsiModel MsiModel.Bytes MsiModel.Pkg MsiProofs.GlobalInv MsiProofs.SortedInv MsiProofs.Frame
open MsiProofs.Refine MsiProofs.Relational MsiProofs.SaveOpen MsiProofs.StreamsMap MsiProofs.CreateTable
open MsiProofs.FullHistory MsiProofs.ValidCells

theorem shape_dataOf (s s' : Pkg) (tn : List Char) (h : DmlShape s s' tn) (n : List Char)
    (hne : ∀ t, s.findTable tn = some t → key t.streamName ≠ key n) : dataOf s'.cont n = dataOf s.cont n := by
  cases hX : s.findTable tn with
  | some X => exact dataOf_of_shape h hX (hne X hX)
  | none =>
    rcases h with rfl | ⟨t, _, _, hf, -, -⟩
    · rfl
    · rw [hX] at hf; cases hf

theorem tableView_congr (s s' : Pkg) (x : Table) (hrows : s'.loadRows x = s.loadRows x)
    (hstr : s'.pool.strings = s.pool.strings) : tableView s' x = tableView s x := by
  unfold tableView rowsOf
  rw [hrows]
  have hv : ∀ c : Cell, Cell.toValue s'.pool c = Cell.toValue s.pool c := by
    intro c
    cases c <;> simp [Cell.toValue, Pool.get, hstr]
  cases s.loadRows x with
  | ok rws =>
    simp only
    apply List.map_congr_left
    intro r _
    unfold rowValues
    exact List.map_congr_left fun c _ => hv c
  | err k => rfl
  | panic w => rfl

/-- **the frame of a statement run through `insert_rows` / `delete_rows` / `update_rows`**, accepted
or refused: the invariants stay, the table list and `longRefs` stay, every table but the
statement's shows the rows it showed, and no stream but that table's is written -/
theorem op_frame (slack : Nat → Nat) (s : Pkg) (hI : Inv slack s) (hS : SortedAll s)
    (op : MsiProofs.GlobalInvUpd.Op) (s' : Pkg) (h : op.run { s with finisher := true } = s') :
    Inv slack s' ∧ SortedAll s' ∧ (ValidAll s → ValidAll s') ∧ s'.tables = s.tables ∧ s'.pool.longRefs = s.pool.longRefs ∧
    (∀ x ∈ s.tables, x.name ≠ target op → tableView s' x = tableView s x) ∧
    (∀ n, (∀ t, s.findTable (target op) = some t → key t.streamName ≠ key n) → dataOf s'.cont n = dataOf s.cont n) := by
  subst h
  have hIA := inv_finisher slack s hI
  have hSA := sorted_finisher s hS
  have hk := op_kept slack _ hIA op
  obtain ⟨h1, h2⟩ := MsiProofs.SortUpd.history_sorted slack [op] _ hIA hSA
  exact ⟨h1, h2, fun hV => op_valid slack _ hIA hSA hV op, hk.tables, hk.long,
    others_same (s := s) ⟨hk.tables, hk.long, hk.rows, hk.vals⟩,
    fun n hn => shape_dataOf _ _ _ (op_shape { s with finisher := true } op) n hn⟩

theorem valid_add_table (s : Pkg) (hV : ValidAll s) (t : Table) (hnew : ∀ x ∈ s.tables, x.name ≠ t.name)
    (hempty : Cont.find s.cont t.streamName = none) : ValidAll (withTable s t) := by
  have hperm := CatalogOpen.insertTable_perm_cons s.tables t hnew
  intro x hx row hrow
  have := hperm.mem_iff.mp hx
  simp only [List.mem_cons] at this
  rcases this with rfl | hx'
  · have hload : s.loadRows x = .ok [] := by unfold Pkg.loadRows; rw [hempty]; rfl
    have : tableView (withTable s x) x = [] := by
      unfold tableView rowsOf
      rw [loadRows_withTable, hload]; rfl
    rw [this] at hrow; cases hrow
  · exact hV x hx' row hrow

theorem createError_of_ok {s : Pkg} {name : List Char} {cols : List Column}
    (h : (createTable s name cols).2 = .ok ()) : createError s name cols = none := by
  cases hce : createError s name cols with
  | none => rfl
  | some k => rw [Exec.createTable_of_error hce] at h; cases h

theorem createTable_stage (slack : Nat → Nat) (s : Pkg) (hI : Inv slack s) (hS : SortedAll s) (hV : ValidAll s)
    (name : List Char) (cols : List Column) (hce : createError s name cols = none)
    (hempty : dataOf s.cont (StreamName.encode name true) = none)
    (hkey : ∀ x ∈ s.tables, key (StreamName.encode name true) ≠ key x.streamName)
    {s1 s2 : Pkg} (hr1 : insertRows s Gen.nameColumns.toList (catalogRowsColumns name cols) = (s1, .ok ()))
    (hr2 : insertRows s1 Gen.nameTables.toList [[.str name]] = (s2, .ok ())) :
    s2.tables = s.tables ∧ s2.pool.longRefs = s.pool.longRefs ∧
    Cont.find s2.cont (StreamName.encode name true) = none ∧
    (∀ x ∈ s.tables, x.name ≠ Gen.nameColumns.toList → x.name ≠ Gen.nameTables.toList →
      tableView s2 x = tableView s x) ∧
    Inv slack (withTable s2 ⟨name, cols, s.pool.longRefs⟩) ∧ SortedAll (withTable s2 ⟨name, cols, s.pool.longRefs⟩) ∧
    ValidAll (withTable s2 ⟨name, cols, s.pool.longRefs⟩) := by
  have hf := createError_facts s name cols hce
  obtain ⟨hI1, hS1, hV1, ht1, hl1, ho1, hc1⟩ := op_frame slack s hI hS (.insert _ _) s1 (congrArg Prod.fst hr1)
  obtain ⟨hI2, hS2, hV2, ht2, hl2, ho2, hc2⟩ := op_frame slack s1 hI1 hS1 (.insert _ _) s2 (congrArg Prod.fst hr2)
  have htabs2 : s2.tables = s.tables := ht2.trans ht1
  have hlong2 : s2.pool.longRefs = s.pool.longRefs := hl2.trans hl1
  -- neither insert writes the new table's stream
  have hkeyT : ∀ (tn : List Char) (sx : Pkg), sx.tables = s.tables → ∀ t, sx.findTable tn = some t →
      key t.streamName ≠ key (StreamName.encode name true) :=
    fun tn sx hsx t hft e => hkey t (hsx ▸ MsiProofs.Synced.findTable_mem hft) e.symm
  have hd2 : dataOf s2.cont (StreamName.encode name true) = none := by
    rw [hc2 _ (hkeyT _ s1 ht1), hc1 _ (hkeyT _ s rfl)]; exact hempty
  have hfind2 := find_none_of_dataOf hd2
  have hnew2 : ∀ x ∈ s2.tables, x.name ≠ name := by rw [htabs2]; exact findTable_none_ne s name hf.fresh
  refine ⟨htabs2, hlong2, hfind2, fun x hx h1 h2 => ?_,
    inv_add_table slack s2 hI2 ⟨name, cols, s.pool.longRefs⟩ hnew2 (by rw [htabs2]; exact hkey) hfind2 hlong2
      (rowSize_pos _ hf.nonempty),
    sorted_add_table s2 hS2 _ hnew2 hfind2, valid_add_table s2 (hV2 (hV1 hV)) _ hnew2 hfind2⟩
  rw [ho2 x (by rw [ht1]; exact hx) h2, ho1 x hx h1]

/-- **an accepted `create_table`**: the table list gains exactly the new definition; the new table
shows no rows; every table other than the three catalog tables shows the rows it showed; all
cells stay valid -/
theorem createTable_view (slack : Nat → Nat) (s : Pkg) (hI : Inv slack s) (hS : SortedAll s) (hV : ValidAll s)
    (name : List Char) (cols : List Column) (s4 : Pkg) (h : createTable s name cols = (s4, .ok ()))
    (hempty : dataOf s.cont (StreamName.encode name true) = none)
    (hkey : ∀ x ∈ s.tables, key (StreamName.encode name true) ≠ key x.streamName) :
    s4.tables = insertTable s.tables ⟨name, cols, s.pool.longRefs⟩ ∧
    Inv slack s4 ∧ SortedAll s4 ∧ ValidAll s4 ∧
    (name ≠ Gen.nameValidation.toList → tableView s4 ⟨name, cols, s.pool.longRefs⟩ = []) ∧
    (∀ x ∈ s.tables, x.name ≠ Gen.nameColumns.toList → x.name ≠ Gen.nameTables.toList →
      x.name ≠ Gen.nameValidation.toList → tableView s4 x = tableView s x) := by
  have hce := createError_of_ok (by rw [h])
  rw [Exec.createTable_eq hce] at h
  cases hroom : catalogRoom s name cols with
  | err k => rw [hroom] at h; cases (Prod.mk.inj h).2
  | panic w => rw [hroom] at h; cases (Prod.mk.inj h).2
  | ok u =>
  rw [hroom] at h
  obtain ⟨s1, hr1, h⟩ := Exec.andThen_ok.mp h
  obtain ⟨s2, hr2, h⟩ := Exec.andThen_ok.mp h
  obtain ⟨htabs2, hlong2, hfind2, ho2, hI3, hS3, hV3⟩ :=
    createTable_stage slack s hI hS hV name cols hce hempty hkey hr1 hr2
  rw [hlong2] at h
  let T : Table := ⟨name, cols, s.pool.longRefs⟩
  obtain ⟨hI4, hS4, hV4, ht4, -, ho4, -⟩ := op_frame slack (withTable s2 T) hI3 hS3 (.insert _ _) s4 (congrArg Prod.fst h)
  have hperm := CatalogOpen.insertTable_perm_cons s2.tables T (by rw [htabs2]; exact findTable_none_ne s name (createError_facts s name cols hce).fresh)
  refine ⟨by rw [ht4]; show insertTable s2.tables T = _; rw [htabs2], hI4, hS4, hV4 hV3, fun hnv => ?_,
    fun x hx h1 h2 h3 => ?_⟩
  · rw [ho4 T (hperm.mem_iff.mpr List.mem_cons_self) hnv]
    have hload : s2.loadRows T = .ok [] := by
      unfold Pkg.loadRows; rw [show Cont.find s2.cont T.streamName = none from hfind2]; rfl
    unfold tableView rowsOf
    rw [loadRows_withTable, hload]; rfl
  · rw [ho4 x (hperm.mem_iff.mpr (List.mem_cons_of_mem _ (htabs2 ▸ hx))) h3]
    exact ho2 x hx h1 h2

theorem stream_key_fresh {s : Pkg} (hN : NoOrphans s) {name : List Char} {cols : List Column}
    (hce : createError s name cols = none) :
    ∀ x ∈ s.tables, key (StreamName.encode name true) ≠ key x.streamName := by
  intro x hx e
  have hf := createError_facts s name cols hce
  have hvn := hf.validName
  simp only [Table.isValidName, Bool.and_eq_true] at hvn
  exact findTable_none_ne s name hf.fresh x hx
    (MsiProofs.Synced.table_stream_injective name x.name hvn.2 (hN.valid x hx) e).symm

/-- what `createTable_view` asks of the container, from `NoOrphans` -/
theorem create_fresh {s : Pkg} (hN : NoOrphans s) {name : List Char} {cols : List Column} {s4 : Pkg}
    (h : createTable s name cols = (s4, .ok ())) :
    dataOf s.cont (StreamName.encode name true) = none ∧
    ∀ x ∈ s.tables, key (StreamName.encode name true) ≠ key x.streamName :=
  have hce := createError_of_ok (by rw [h])
  ⟨MsiProofs.Lifecycle.fresh_of_noOrphans s hN name cols hce, stream_key_fresh hN hce⟩

open MsiProofs.DropTable in
/-- the first call of `drop_table`'s chain -/
theorem dropStream_stage (slack : Nat → Nat) (s : Pkg) (hI : Inv slack s) (hS : SortedAll s) (t : Table)
    (htm : t ∈ s.tables) :
    (Exec.dropStream s t).2 = .ok () ∧ Inv slack (Exec.dropStream s t).1 ∧ SortedAll (Exec.dropStream s t).1 ∧
    (Exec.dropStream s t).1.tables = s.tables ∧ (Exec.dropStream s t).1.pool.longRefs = s.pool.longRefs ∧
    (ValidAll s → ValidAll (Exec.dropStream s t).1) ∧
    (∀ x ∈ s.tables, x.name ≠ t.name → tableView (Exec.dropStream s t).1 x = tableView s x) := by
  by_cases hex : Cont.exists_ s.cont t.streamName = true
  · obtain ⟨rows, hl⟩ := hI.loads t htm
    have hds : Exec.dropStream s t = (released s t rows, .ok ()) := by
      unfold Exec.dropStream; rw [if_pos hex, hl]; rfl
    rw [hds]
    obtain ⟨hI1, hS1, hK1, hl1⟩ := release_stage slack s hI hS t htm rows hl
    refine ⟨rfl, hI1, hS1, hK1.tables, hK1.long, fun hV x hx row hrow => ?_, others_same hK1⟩
    by_cases hxt : x.name = t.name
    · have hxeq : x = t := eq_of_same_stream s.tables hI.distinct hx htm (by unfold Table.streamName; rw [hxt])
      subst hxeq
      have : tableView (released s x rows) x = [] := by
        unfold tableView rowsOf; rw [hl1]; rfl
      rw [this] at hrow
      cases hrow
    · rw [others_same hK1 x hx hxt] at hrow
      exact hV x hx row hrow
  · have hds : Exec.dropStream s t = (s, .ok ()) := by unfold Exec.dropStream; rw [if_neg hex]
    rw [hds]
    exact ⟨rfl, hI, hS, rfl, rfl, id, fun _ _ _ => rfl⟩

/-- **an accepted `drop_table`**: the table list loses exactly the definitions of that name; every
table other than the dropped one and the three catalog tables shows the rows it showed; all cells
stay valid -/
theorem dropTable_view (slack : Nat → Nat) (s : Pkg) (hI : Inv slack s) (hS : SortedAll s) (hV : ValidAll s)
    (name : List Char) (s5 : Pkg) (h : dropTable s name = (s5, .ok ())) :
    s5.tables = s.tables.filter (·.name != name) ∧ ValidAll s5 ∧
    (∀ x ∈ s.tables, x.name ≠ name → x.name ≠ Gen.nameColumns.toList → x.name ≠ Gen.nameTables.toList →
      x.name ≠ Gen.nameValidation.toList → tableView s5 x = tableView s x) := by
  obtain ⟨-, -, t, s1, s2, s3, s4, hf, h1, hr2, hr3, hr4, rfl⟩ := Exec.dropTable_ok h
  obtain ⟨-, hI1, hS1, ht1, -, hV1, ho1⟩ := dropStream_stage slack s hI hS t (MsiProofs.Synced.findTable_mem hf)
  simp only [h1] at hI1 hS1 ht1 hV1 ho1
  rw [findTable_name hf] at ho1
  have hfr : Inv slack s2 ∧ SortedAll s2 ∧ ValidAll s2 ∧ s2.tables = s1.tables ∧
      (∀ x ∈ s1.tables, x.name ≠ Gen.nameValidation.toList → tableView s2 x = tableView s1 x) := by
    rcases MsiProofs.DeleteValidation.deleteValidation_cases s1 name with e | e <;> rw [e] at hr2
    · obtain ⟨h1, h2, h3, h4, -, h6, -⟩ := op_frame slack s1 hI1 hS1 (.delete _ _) s2 (congrArg Prod.fst hr2)
      exact ⟨h1, h2, h3 (hV1 hV), h4, h6⟩
    · cases hr2
      exact ⟨hI1, hS1, hV1 hV, rfl, fun _ _ _ => rfl⟩
  obtain ⟨hI2, hS2, hV2, ht2, ho2⟩ := hfr
  obtain ⟨hI3, hS3, hV3, ht3, -, ho3, -⟩ := op_frame slack s2 hI2 hS2 (.delete _ _) s3 (congrArg Prod.fst hr3)
  obtain ⟨-, -, hV4, ht4, -, ho4, -⟩ := op_frame slack s3 hI3 hS3 (.delete _ _) s4 (congrArg Prod.fst hr4)
  refine ⟨by show s4.tables.filter _ = _; rw [ht4, ht3, ht2, ht1], fun x hx row hrow => hV4 (hV3 hV2) x (List.mem_filter.mp hx).1 row hrow,
    fun x hx hne h1 h2 h3 => ?_⟩
  show tableView s4 x = _
  rw [ho4 x (by rw [ht3, ht2, ht1]; exact hx) h2, ho3 x (by rw [ht2, ht1]; exact hx) h1,
    ho2 x (by rw [ht1]; exact hx) h3, ho1 x hx hne]

end MsiProofs.RelationalApi
