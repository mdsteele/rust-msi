import MsiProofs.Lemmas.RelationalApi
import MsiProofs.Lemmas.Exec
/-
The relational view over the whole life of a package (properties C03, C05): from the state
`Package::create` builds, through any sequence of calls of the whole mutating API,

* every statement changes the view exactly as the relational model says (`created_dml_refines`);
* every call that is not a statement, `create_table` or `drop_table` leaves the whole view
  untouched (`step_view_same`);
* every stored cell of every table stays valid for its column (`created_history_valid`).
-/
namespace MsiProofs.RelationalLife
open MsiModel MsiModel.Bytes MsiModel.Pkg MsiProofs.GlobalInv MsiProofs.SortedInv MsiProofs.Frame
open MsiProofs.Refine MsiProofs.Relational MsiProofs.SaveOpen MsiProofs.StreamsMap MsiProofs.CreateTable
open MsiProofs.FullHistory MsiProofs.ValidCells MsiProofs.RelationalApi MsiProofs.Lifecycle MsiProofs.Created

theorem view_transfer (s s' : Pkg) (htabs : s'.tables = s.tables) (hstr : s'.pool.strings = s.pool.strings)
    (hrows : ∀ t ∈ s.tables, s'.loadRows t = s.loadRows t) : view s' = view s := by
  unfold view
  rw [htabs]
  apply List.map_congr_left
  intro t ht
  rw [tableView_congr s s' t (hrows t ht) hstr]

theorem valid_transfer {s s' : Pkg} (htabs : s'.tables = s.tables) (hstr : s'.pool.strings = s.pool.strings)
    (hrows : ∀ t ∈ s.tables, s'.loadRows t = s.loadRows t) (hV : ValidAll s) : ValidAll s' := by
  intro t ht row hrow
  rw [htabs] at ht
  rw [tableView_congr s s' t (hrows t ht) hstr] at hrow
  exact hV t ht row hrow

theorem runAll_keeps {I : Pkg → Prop} {P : Pkg → Step → Prop} {Adm : Pkg → List Step → Prop}
    (hcons : ∀ s st rest, Adm s (st :: rest) → P s st ∧ Adm (st.run s) rest)
    (hstep : ∀ s st, I s → P s st → I (st.run s)) : ∀ steps s, I s → Adm s steps → I (runAll s steps)
  | [], _, h, _ => h
  | st :: rest, s, h, ha =>
    runAll_keeps hcons hstep rest _ (hstep s st h (hcons s st rest ha).1) (hcons s st rest ha).2

/-- the calls that are neither statements nor `create_table` / `drop_table` -/
def Step.isOther : Step → Bool
  | .dml _ => false
  | .create _ _ => false
  | .drop _ => false
  | _ => true

theorem cont_only {s s' : Pkg} (e : s' = { s with cont := s'.cont }) :
    s'.tables = s.tables ∧ s'.pool = s.pool ∧ s'.summary = s.summary := by
  rw [e]; exact ⟨rfl, rfl, rfl⟩

theorem run_other {slack : Nat → Nat} {s : Pkg} {tabs : List Table} (hF : Full slack s tabs) (st : Step)
    (ho : Step.isOther st = true) (hre : st = .reopen → Saved s) :
    (st.run s).tables = s.tables ∧ (st.run s).pool.strings = s.pool.strings ∧
    (∀ t ∈ s.tables, (st.run s).loadRows t = s.loadRows t) ∧
    ((∀ f, st ≠ .setSummary f) → (st.run s).summary = s.summary) ∧
    ((∀ cp, st ≠ .setCodepage cp) → (st.run s).pool.codepage = s.pool.codepage) := by
  cases st with
  | dml op => cases ho
  | create n c => cases ho
  | drop n => cases ho
  | writeStream n d =>
    have e : (Pkg.writeStream s n d).1 = { s with cont := (Pkg.writeStream s n d).1.cont } := by
      unfold Pkg.writeStream; split <;> rfl
    obtain ⟨h1, h2, h3⟩ := cont_only e
    exact ⟨h1, congrArg Pool.strings h2, fun t _ => write_keeps_rows s n d t, fun _ => h3,
      fun _ => congrArg Pool.codepage h2⟩
  | removeStream n =>
    have e : (Pkg.removeStream s n).1 = { s with cont := (Pkg.removeStream s n).1.cont } := by
      unfold Pkg.removeStream; split; rfl; simp only; split <;> rfl
    obtain ⟨h1, h2, h3⟩ := cont_only e
    refine ⟨h1, congrArg Pool.strings h2, fun t _ => loadRows_congr s _ t ?_, fun _ => h3,
      fun _ => congrArg Pool.codepage h2⟩
    show dataOf (Pkg.removeStream s n).1.cont _ = _
    unfold Pkg.removeStream
    cases hv : StreamName.isValid n false with
    | false => rfl
    | true =>
      simp only [Bool.not_true, Bool.false_eq_true, if_false]
      split
      · rfl
      · exact MsiProofs.Synced.dataOf_remove_other s.cont _ _ (MsiProofs.Synced.user_key_ne_table_key n t.name hv)
  | removeSignature =>
    refine ⟨rfl, rfl, fun t _ => loadRows_congr s _ t ?_, fun _ => rfl, fun _ => rfl⟩
    show dataOf (if Cont.exists_ _ Gen.snMsiDigitalSignatureEx.toList = true then _ else _) _ = _
    unfold Table.streamName
    rw [MsiProofs.OtherCalls.dataOf_cond_remove _ _ _ (MsiProofs.OtherCalls.sig_ne_table t.name).2,
      MsiProofs.OtherCalls.dataOf_cond_remove _ _ _ (MsiProofs.OtherCalls.sig_ne_table t.name).1]
  | setSummary f => exact ⟨rfl, rfl, fun _ _ => rfl, fun h => absurd rfl (h f), fun _ => rfl⟩
  | setCodepage cp => exact ⟨rfl, rfl, fun _ _ => rfl, fun _ => rfl, fun h => absurd rfl (h cp)⟩
  | save =>
    show (flush s).1.tables = _ ∧ (flush s).1.pool.strings = _ ∧ (∀ t ∈ s.tables, (flush s).1.loadRows t = _) ∧
      (_ → (flush s).1.summary = _) ∧ (_ → (flush s).1.pool.codepage = _)
    rw [Exec.flush_eq]
    split
    · -- `finish` writes the three metadata streams and lowers two flags, nothing else
      have hfr := (MsiProofs.CatalogSync.finish_frame { s with finisher := false }).2
      obtain ⟨puts, sm, pm, e, -, -⟩ := Exec.finish_fst { s with finisher := false }
      rw [e] at hfr ⊢
      exact ⟨rfl, rfl, fun t ht => loadRows_congr s _ t (hfr _ (hF.core.sep t ht)), fun _ => rfl, fun _ => rfl⟩
    · exact ⟨rfl, rfl, fun _ _ => rfl, fun _ => rfl, fun _ => rfl⟩
  | reopen =>
    obtain ⟨s2, hop, hc, hs, hp, ht⟩ :=
      MsiProofs.CatalogSync.reopen_same_tables s tabs (hre rfl) (full_allInv slack s tabs hF).cat
    have e : Step.reopen.run s = s2 := by
      show (match open_ (some s.ptype) s.cont with | .ok s2 => s2 | _ => s) = s2
      rw [hop]
    rw [e]
    exact ⟨ht, congrArg Pool.strings hp, fun t _ => rows_same_after_reopen s s2 hc t, fun _ => hs,
      fun _ => congrArg Pool.codepage hp⟩

/-- **every other call leaves the whole relational view untouched**: stream writes and removals,
signature removal, summary setters, the database code page, saves, closing and reopening -/
theorem step_view_same (slack : Nat → Nat) (s : Pkg) (tabs : List Table) (hF : Full slack s tabs)
    (st : Step) (ho : Step.isOther st = true) (ha : st.Admissible s) : view (st.run s) = view s := by
  obtain ⟨ht, hs, hr, -, -⟩ := run_other hF st ho (fun e => by subst e; exact ha)
  exact view_transfer s _ ht hs hr

/-- **one call keeps every stored cell valid** -/
theorem step_valid (slack : Nat → Nat) (s : Pkg) (tabs : List Table) (hF : Full slack s tabs) (hN : NoOrphans s)
    (hV : ValidAll s) (st : Step) (ha : st.Admissible s) : ValidAll (st.run s) := by
  have hI := hF.core.inv
  have hS := hF.core.sorted
  cases ho : Step.isOther st with
  | true =>
    obtain ⟨ht, hs, hr, -, -⟩ := run_other hF st ho (fun e => by subst e; exact ha)
    exact valid_transfer ht hs hr hV
  | false =>
    cases st with
    | dml op => exact op_valid slack _ (inv_finisher slack s hI) (sorted_finisher s hS) hV op
    | create n c =>
      show ValidAll (createTable s n c).1
      rcases ha with ha | ha
      · obtain ⟨k, hk⟩ := Option.ne_none_iff_exists'.mp ha
        rw [Exec.createTable_of_error hk]; exact hV
      · have h : createTable s n c = (_, .ok ()) := Prod.ext rfl ha
        exact (createTable_view slack s hI hS hV n c _ h (create_fresh hN h).1 (create_fresh hN h).2).2.2.2.1
    | drop n =>
      show ValidAll (dropTable s n).1
      rcases ha with ha | ha
      · rw [Exec.dropTable_refused ha]; exact hV
      · exact (dropTable_view slack s hI hS hV n _ (Prod.ext rfl ha)).2.1
    | _ => cases ho

/-- the state `create` starts from holds no rows -/
theorem base_valid (ptype : Nat) (summary : PropSet) : ValidAll (base ptype summary) := by
  intro t _ row hrow
  have : tableView (base ptype summary) t = [] := by
    unfold tableView rowsOf; rw [base_loads]; rfl
  rw [this] at hrow; cases hrow

theorem created_valid (ptype : Nat) (summary : PropSet) (s0 : Pkg)
    (hc : createTable (base ptype summary) Gen.nameValidation.toList Catalog.validationColumns = (s0, .ok ())) :
    ValidAll s0 :=
  (createTable_view _ _ (base_core ptype summary).inv (base_core ptype summary).sorted (base_valid ptype summary)
    _ _ s0 hc (create_fresh (base_noOrphans ptype summary) hc).1 (create_fresh (base_noOrphans ptype summary) hc).2).2.2.2.1

/-- **in every state reachable from `Package::create`, every stored cell of every table — the
catalog tables included — is valid for its column**: one value per column, each the stored form of
a value the column declares valid (type, nullability, range, category, enumeration, length) -/
theorem created_history_valid (ptype : Nat) (summary : PropSet) (s0 : Pkg)
    (hc : createTable (base ptype summary) Gen.nameValidation.toList Catalog.validationColumns = (s0, .ok ()))
    (steps : List Step) (ha : Admissible s0 steps) : ValidAll (runAll s0 steps) := by
  obtain ⟨hF0, hN0⟩ := created_full ptype summary s0 hc
  obtain ⟨-, -, -, hV⟩ := runAll_keeps (I := fun s => ∃ tabs, Full (fun _ => 0) s tabs ∧ NoOrphans s ∧ ValidAll s)
    (P := fun s st => st.Admissible s) (Adm := Admissible) (fun _ _ _ h => h)
    (fun s st ⟨tabs, hF, hN, hV⟩ ha =>
      (step_full _ s tabs hF hN st ha).imp fun _ h => ⟨h.1, h.2, step_valid _ s tabs hF hN hV st ha⟩)
    steps s0 ⟨_, hF0, hN0, created_valid ptype summary s0 hc⟩ ha
  exact hV

/-- **in every state reachable from `Package::create`, every statement refines the relational
model**: accepted, it changes its table as the model says and no other; refused, it changes
nothing -/
theorem created_dml_refines (ptype : Nat) (summary : PropSet) (s0 : Pkg)
    (hc : createTable (base ptype summary) Gen.nameValidation.toList Catalog.validationColumns = (s0, .ok ()))
    (steps : List Step) (ha : Admissible s0 steps) (op : MsiProofs.GlobalInvUpd.Op) :
    Refines { runAll s0 steps with finisher := true } ((Step.dml op).run (runAll s0 steps)) op
      (reply { runAll s0 steps with finisher := true } op) := by
  obtain ⟨tabs, hF, -⟩ := created_history_full ptype summary s0 hc steps ha
  exact op_refines _ _ (inv_finisher _ _ hF.core.inv) (sorted_finisher _ hF.core.sorted) op

end MsiProofs.RelationalLife
