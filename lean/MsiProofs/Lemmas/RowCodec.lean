import MsiProofs.Lemmas.Codec
/-
The row block codec: `write_rows` writes a whole number of column-major rows of the widths
the column types dictate, and `read_rows` reads exactly those rows back.
-/
namespace MsiProofs.RowCodec
open MsiModel MsiModel.Bytes MsiProofs.Codec

def colCells (i : Nat) (rows : List (List Cell)) : List Cell := rows.map fun r => r.getD i .null

def ColOk (long : Bool) (ty : ColType) (i : Nat) (rows : List (List Cell)) : Prop :=
  ∀ r ∈ rows, ∃ c, r[i]? = some c ∧ Storable long ty c

theorem writeCol_spec (long : Bool) (ty : ColType) (i : Nat) (rows : List (List Cell)) (acc : Bytes)
    (h : ColOk long ty i rows) :
    ∃ bs, Table.writeCol long ty i rows acc = .ok (acc ++ bs) ∧ bs.length = rows.length * ty.width long ∧
      ∀ (partialRows : List (List Cell)) (rest : Bytes) (racc : List (List Cell)),
        partialRows.length = rows.length →
        Table.readColumn long ty partialRows (bs ++ rest) racc =
          .ok (racc.reverse ++ List.zipWith (fun p c => p ++ [c]) partialRows (colCells i rows), rest) := by
  induction rows generalizing acc with
  | nil =>
    refine ⟨[], by simp [Table.writeCol, pure], by simp, ?_⟩
    intro pr rest racc hlen
    have : pr = [] := List.eq_nil_of_length_eq_zero (by simpa using hlen)
    subst this
    simp [Table.readColumn, colCells, pure]
  | cons r rest ih =>
    obtain ⟨c, hc, hs⟩ := h r (by simp)
    obtain ⟨cb, hw, hwl, hrd⟩ := cell_codec long ty c hs
    have hrest : ColOk long ty i rest := fun x hx => h x (by simp [hx])
    obtain ⟨bs, hbs, hlen, hread⟩ := ih (acc ++ cb) hrest
    refine ⟨cb ++ bs, ?_, ?_, ?_⟩
    · unfold Table.writeCol
      simp only [hc, hw, bind, Res.bind]
      rw [hbs, List.append_assoc]
    · simp only [List.length_append, List.length_cons, hwl, hlen]
      rw [Nat.add_mul, Nat.one_mul, Nat.add_comm]
    · intro pr rest' racc hpl
      cases pr with
      | nil => simp at hpl
      | cons p ps =>
        simp only [Table.readColumn, List.append_assoc, hrd, Res.bind_ok]
        rw [hread ps rest' ((p ++ [c]) :: racc) (by simpa using hpl)]
        simp only [colCells, List.map_cons, List.zipWith_cons_cons, List.reverse_cons, List.append_assoc,
          List.singleton_append]
        have : r.getD i Cell.null = c := by simp [List.getD, hc]
        rw [this]

/-- the columns of a table from index `k` on are well-formed for the rows -/
def ColsOk (long : Bool) (rows : List (List Cell)) : List Column → Nat → Prop
  | [], _ => True
  | c :: cs, k => ColOk long c.coltype k rows ∧ ColsOk long rows cs (k + 1)

def prefixes (k : Nat) (rows : List (List Cell)) : List (List Cell) := rows.map (·.take k)

theorem zip_prefix (k : Nat) (rows : List (List Cell)) (h : ∀ r ∈ rows, k < r.length) :
    List.zipWith (fun p c => p ++ [c]) (prefixes k rows) (colCells k rows) = prefixes (k + 1) rows := by
  induction rows with
  | nil => rfl
  | cons r rest ih =>
    simp only [prefixes, colCells, List.map_cons, List.zipWith_cons_cons]
    have hk := h r (by simp)
    have e : List.take k r ++ [r.getD k Cell.null] = List.take (k + 1) r := by
      rw [List.take_succ]
      simp [List.getD, List.getElem?_eq_getElem hk]
    rw [e]
    have := ih (fun x hx => h x (by simp [hx]))
    simp only [prefixes, colCells] at this
    rw [this]

theorem colOk_lt {long ty k rows} (h : ColOk long ty k rows) : ∀ r ∈ rows, k < r.length := by
  intro r hr
  obtain ⟨c, hc, _⟩ := h r hr
  rcases Nat.lt_or_ge k r.length with hlt | hge
  · exact hlt
  · have : r[k]? = none := List.getElem?_eq_none hge
    rw [this] at hc; cases hc

theorem writeCols_spec (long : Bool) (rows : List (List Cell)) (cols : List Column) (k : Nat) (acc : Bytes)
    (h : ColsOk long rows cols k) :
    ∃ bs, Table.writeCols long rows cols k acc = .ok (acc ++ bs) ∧
      bs.length = rows.length * (cols.map fun c => c.coltype.width long).sum ∧
      ∀ rest, Table.readCols long cols (prefixes k rows) (bs ++ rest) = .ok (prefixes (k + cols.length) rows) := by
  induction cols generalizing k acc with
  | nil =>
    refine ⟨[], by simp [Table.writeCols, pure], by simp, ?_⟩
    intro rest; simp [Table.readCols, pure]
  | cons c cs ih =>
    obtain ⟨hc, hcs⟩ := h
    obtain ⟨b1, hw1, hl1, hr1⟩ := writeCol_spec long c.coltype k rows acc hc
    obtain ⟨b2, hw2, hl2, hr2⟩ := ih (k + 1) (acc ++ b1) hcs
    refine ⟨b1 ++ b2, ?_, ?_, ?_⟩
    · unfold Table.writeCols
      simp only [hw1, bind, Res.bind]
      rw [hw2, List.append_assoc]
    · simp only [List.length_append, hl1, hl2, List.map_cons, List.sum_cons]
      rw [Nat.mul_add]
    · intro rest
      unfold Table.readCols
      rw [List.append_assoc, hr1 (prefixes k rows) (b2 ++ rest) [] (by simp [prefixes])]
      simp only [bind, Res.bind, List.reverse_nil, List.nil_append]
      rw [zip_prefix k rows (colOk_lt hc), hr2 rest]
      congr 2
      simp only [List.length_cons]; omega

/-- **row block round trip**: for every table and every list of at most 65,536 rows whose
cells fit their columns, the stream written holds exactly `rows × row size` bytes (a whole
number of rows) and reads back as the same rows -/
theorem rows_roundtrip (t : Table) (rows : List (List Cell))
    (harity : ∀ r ∈ rows, r.length = t.columns.length)
    (hcols : ColsOk t.longRefs rows t.columns 0)
    (hpos : 0 < t.rowSize) (hmax : rows.length ≤ Gen.maxTableRows) :
    ∃ bs, t.writeRows rows = .ok bs ∧ bs.length = rows.length * t.rowSize ∧ t.readRows bs = .ok rows := by
  obtain ⟨bs, hw, hl, hr⟩ := writeCols_spec t.longRefs rows t.columns 0 [] hcols
  have hlen : bs.length = rows.length * t.rowSize := by simpa [Table.rowSize] using hl
  refine ⟨bs, by simpa [Table.writeRows] using hw, hlen, ?_⟩
  have h0 : prefixes 0 rows = List.replicate rows.length [] := by
    simp only [prefixes, List.take_zero, List.map_const']
  -- all columns read: every row is its own prefix of full length
  have hfull : prefixes (0 + t.columns.length) rows = rows := by
    rw [prefixes, Nat.zero_add]
    conv => rhs; rw [← List.map_id rows]
    exact List.map_congr_left fun r hr => by rw [← harity r hr, List.take_length, id]
  have := hr []
  rw [List.append_nil, h0, hfull] at this
  simp only [Table.readRows, hpos, if_true, hlen, Nat.mul_div_cancel _ hpos, if_neg (Nat.not_lt.mpr hmax), this]

end MsiProofs.RowCodec
