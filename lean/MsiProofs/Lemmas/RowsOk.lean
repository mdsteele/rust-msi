import MsiProofs.Lemmas.RowCodec
import MsiProofs.Lemmas.Refine
import MsiProofs.Props.C09b
/-
Rows that `read_rows` returns, and rows that `Insert::exec` builds from validated values, fit
their columns (`RowOk`), so writing them and reading the stream back gives the same rows.
-/
namespace MsiProofs.RowsOk
open MsiModel MsiModel.Bytes MsiModel.Pkg MsiProofs.Codec MsiProofs.RowCodec

/-- the first `k` cells of the row fit the first `k` columns, and there are exactly `k` -/
def Pref (long : Bool) (cols : List Column) (k : Nat) (r : List Cell) : Prop :=
  r.length = k ∧ ∀ j (hj : j < k), ∃ c col, r[j]? = some c ∧ cols[j]? = some col ∧ Storable long col.coltype c

/-- a whole row fits the table's columns -/
def RowOk (long : Bool) (cols : List Column) (r : List Cell) : Prop := Pref long cols cols.length r

theorem readU8_lt {bs : Bytes} {w : Nat} {r : Bytes} (h : readU8 bs = .ok (w, r)) : w < 256 := by
  unfold readU8 at h
  split at h
  · cases h; exact UInt8.toNat_lt _
  · cases h

theorem readU16_lt {bs : Bytes} {w : Nat} {r : Bytes} (h : readU16 bs = .ok (w, r)) : w < 65536 := by
  unfold readU16 at h
  split at h
  · rename_i a b _
    cases h
    have := a.toNat_lt; have := b.toNat_lt
    omega
  · cases h

theorem readU32_lt {bs : Bytes} {w : Nat} {r : Bytes} (h : readU32 bs = .ok (w, r)) : w < 4294967296 := by
  unfold readU32 at h
  split at h
  · rename_i a b c d _
    cases h
    have := a.toNat_lt; have := b.toNat_lt; have := c.toNat_lt; have := d.toNat_lt
    omega
  · cases h

/-- what `read_value` returns fits the column: the integers are offset-binary within the width
read, the references within the reference width read -/
theorem readValue_storable (long : Bool) (ty : ColType) (bs : Bytes) (c : Cell) (rest : Bytes)
    (h : ty.readValue long bs = .ok (c, rest)) : Storable long ty c := by
  cases ty with
  | int16 =>
    obtain ⟨⟨w, r⟩, hr, he⟩ := Res.bind_eq_ok.mp h
    have hw := readU16_lt hr
    cases he
    split
    · trivial
    · simp only [Storable]
      rw [Int32.toInt_ofInt_of_le (by omega) (by omega)]
      omega
  | int32 =>
    obtain ⟨⟨w, r⟩, hr, he⟩ := Res.bind_eq_ok.mp h
    have hw := readU32_lt hr
    cases he
    split
    · trivial
    · simp only [Storable]
      rw [Int32.toInt_ofInt_of_le (by omega) (by omega)]
      omega
  | str n =>
    obtain ⟨⟨lo, r⟩, hr, he⟩ := Res.bind_eq_ok.mp h
    have hlo := readU16_lt hr
    cases long with
    | true =>
      obtain ⟨⟨hi, r2⟩, hr2, he2⟩ := Res.bind_eq_ok.mp he
      have hhi := readU8_lt hr2
      cases he2
      split
      · trivial
      · simp only [Storable, if_true]
        omega
    | false =>
      cases he
      split
      · trivial
      · simp only [Storable, Bool.false_eq_true, if_false]
        omega

theorem drop_eq_cons {α} {l : List α} {k : Nat} {c : α} {cs : List α} (h : l.drop k = c :: cs) :
    l[k]? = some c ∧ l.drop (k + 1) = cs :=
  ⟨by simpa [List.head?_drop] using congrArg List.head? h, by simpa [List.tail_drop] using congrArg List.tail h⟩

theorem pref_snoc (long : Bool) (cols : List Column) (k : Nat) (r : List Cell) (c : Cell) (col : Column)
    (hp : Pref long cols k r) (hcol : cols[k]? = some col) (hc : Storable long col.coltype c) :
    Pref long cols (k + 1) (r ++ [c]) := by
  obtain ⟨hl, hj⟩ := hp
  refine ⟨by simp [hl], ?_⟩
  intro j hjlt
  by_cases hjk : j < k
  · obtain ⟨c', col', h1, h2, h3⟩ := hj j hjk
    exact ⟨c', col', by rw [List.getElem?_append_left (by omega)]; exact h1, h2, h3⟩
  · have : j = k := by omega
    subst this
    refine ⟨c, col, ?_, hcol, hc⟩
    rw [List.getElem?_append_right (by omega)]
    simp [hl]

theorem readColumn_pref (long : Bool) (cols : List Column) (k : Nat) (col : Column) (hcol : cols[k]? = some col) :
    ∀ (rows : List (List Cell)) {bs : Bytes} {acc rows' : List (List Cell)} {r : Bytes},
    (∀ x ∈ rows, Pref long cols k x) → (∀ x ∈ acc, Pref long cols (k + 1) x) →
    Table.readColumn long col.coltype rows bs acc = .ok (rows', r) →
    (∀ x ∈ rows', Pref long cols (k + 1) x) ∧ rows'.length = acc.length + rows.length
  | [], _, _, _, _, _, hacc, h => by
    cases h
    exact ⟨fun x hx => hacc x (List.mem_reverse.mp hx), by simp⟩
  | row :: rest, bs, acc, _, _, hrows, hacc, h => by
    obtain ⟨⟨c, r1⟩, hv, h2⟩ := Res.bind_eq_ok.mp h
    obtain ⟨h3, h4⟩ := readColumn_pref long cols k col hcol rest
      (fun x hx => hrows x (List.mem_cons_of_mem _ hx))
      (fun x hx => (List.mem_cons.mp hx).elim
        (fun e => e ▸ pref_snoc long cols k row c col (hrows row List.mem_cons_self) hcol
          (readValue_storable long _ bs c r1 hv))
        (hacc x)) h2
    exact ⟨h3, by rw [h4]; simp only [List.length_cons]; omega⟩

theorem readCols_pref (long : Bool) (all : List Column) : ∀ (cs : List Column) (k : Nat) {rows : List (List Cell)}
    {bs : Bytes} {out : List (List Cell)}, all.drop k = cs → (∀ x ∈ rows, Pref long all k x) →
    Table.readCols long cs rows bs = .ok out →
    (∀ x ∈ out, Pref long all (k + cs.length) x) ∧ out.length = rows.length
  | [], _, _, _, _, _, hrows, h => by cases h; exact ⟨hrows, rfl⟩
  | c :: cs, k, _, _, _, hdrop, hrows, h => by
    obtain ⟨hk, hdrop'⟩ := drop_eq_cons hdrop
    obtain ⟨⟨rows', r⟩, hc, h2⟩ := Res.bind_eq_ok.mp h
    obtain ⟨hp, hl⟩ := readColumn_pref long all k c hk _ hrows (fun _ hx => by simp at hx) hc
    obtain ⟨h3, h4⟩ := readCols_pref long all cs (k + 1) hdrop' hp h2
    exact ⟨by simpa [Nat.add_assoc, Nat.add_comm 1] using h3, by rw [h4, hl]; simp⟩

/-- **every row `read_rows` returns fits the table's columns**, and there are at most 65,536 -/
theorem readRows_spec (t : Table) (data : Bytes) (rows : List (List Cell)) (h : t.readRows data = .ok rows) :
    (∀ r ∈ rows, RowOk t.longRefs t.columns r) ∧ rows.length ≤ Gen.maxTableRows := by
  unfold Table.readRows at h
  simp only at h
  by_cases hbig : (if t.rowSize > 0 then data.length / t.rowSize else 0) > Gen.maxTableRows
  · rw [if_pos hbig] at h; cases h
  · rw [if_neg hbig] at h
    obtain ⟨h1, h2⟩ := readCols_pref t.longRefs t.columns t.columns 0 (by simp)
      (fun x hx => by
        rw [List.eq_of_mem_replicate hx]
        exact ⟨rfl, fun j hj => absurd hj (by omega)⟩) h
    exact ⟨by simpa [RowOk] using h1, by rw [h2, List.length_replicate]; omega⟩

/-- **every row `read_rows` returns fits the table's columns** -/
theorem readRows_rowOk (t : Table) (data : Bytes) (rows : List (List Cell)) (h : t.readRows data = .ok rows) :
    ∀ r ∈ rows, RowOk t.longRefs t.columns r := (readRows_spec t data rows h).1

theorem colsOk_of_rowOk (long : Bool) (all : List Column) (rows : List (List Cell))
    (h : ∀ r ∈ rows, RowOk long all r) : ∀ (cs : List Column) (k : Nat), all.drop k = cs →
    ColsOk long rows cs k := by
  intro cs
  induction cs with
  | nil => intro k _; trivial
  | cons c cs ih =>
    intro k hdrop
    obtain ⟨hk, hdrop'⟩ := drop_eq_cons hdrop
    have hklt : k < all.length := by
      have := List.getElem?_eq_some_iff.mp hk
      exact this.1
    refine ⟨?_, ih (k + 1) hdrop'⟩
    intro r hr
    obtain ⟨-, hj⟩ := h r hr
    obtain ⟨cell, col, h1, h2, h3⟩ := hj k hklt
    rw [hk] at h2
    cases h2
    exact ⟨cell, h1, h3⟩

/-- **write, then read**: rows that fit the table's columns (at most 65,536 of them, a non-empty
column list) are read back from the stream `write_rows` produces -/
theorem write_read (t : Table) (rows : List (List Cell)) (h : ∀ r ∈ rows, RowOk t.longRefs t.columns r)
    (hpos : 0 < t.rowSize) (hmax : rows.length ≤ Gen.maxTableRows) :
    ∃ bs, t.writeRows rows = .ok bs ∧ t.readRows bs = .ok rows := by
  obtain ⟨bs, h1, -, h3⟩ := rows_roundtrip t rows (fun r hr => (h r hr).1)
    (colsOk_of_rowOk t.longRefs t.columns rows h t.columns 0 (by simp)) hpos hmax
  exact ⟨bs, h1, h3⟩


/-! ### cells created from validated values -/

/-- the pool is within what its reference width can address -/
def PoolSized (p : Pool) : Prop := p.strings.length ≤ (if p.longRefs then 16777215 else 65535)

/-- **interning and releasing keep the pool within what its reference width addresses, and keep the
width**: so does every loop of the statements (`MsiProofs.Loops`) -/
theorem sized : MsiProofs.Loops.PoolRel (fun _ => True)
    fun p p' => (PoolSized p → PoolSized p') ∧ p'.longRefs = p.longRefs where
  refl _ := ⟨id, rfl⟩
  trans h1 h2 := ⟨h2.1 ∘ h1.1, h2.2.trans h1.2⟩
  decref p r := by
    have hl : (p.decref r).longRefs = p.longRefs := by unfold Pool.decref; split <;> rfl
    refine ⟨fun h => ?_, hl⟩
    unfold PoolSized at h ⊢
    rw [MsiProofs.PoolOps.decref_length, hl]; exact h
  incref p s p' r _ h := by
    rcases MsiProofs.PoolOps.incref_eq_ok h with ⟨j, e, -, -, hrw⟩ | ⟨-, h1, h2, -, rfl⟩
    · -- an entry rewritten: as many entries as before
      have : p'.strings.length = p.strings.length ∧ p'.longRefs = p.longRefs := by
        rcases hrw with ⟨-, rfl⟩ | ⟨-, -, -, rfl⟩ <;> exact ⟨List.length_set, rfl⟩
      refine ⟨fun hs => ?_, this.2⟩
      unfold PoolSized at *
      rw [this.1, this.2]; exact hs
    · refine ⟨fun _ => ?_, rfl⟩
      -- an entry appended: `incref` has checked the capacity for the reference width
      have e1 : Gen.maxShortRefStrings = 65535 := rfl
      have e2 : Gen.maxStringRef = 16777215 := rfl
      unfold PoolSized
      simp only [List.length_append, List.length_cons, List.length_nil]
      rw [e1] at h1; rw [e2] at h2
      cases hl : p.longRefs
      · simp only [hl, Bool.not_false, and_true, ge_iff_le] at h1
        simp; omega
      · simp; omega

theorem create_storable (p : Pool) (col : Column) (v0 : Value) (p' : Pool) (c : Cell)
    (hs : PoolSized p) (hv : col.isValidValue v0 = true) (h : Cell.create p (storable v0) = .ok (p', c)) :
    Storable p.longRefs col.coltype c := by
  cases v0 with
  | null =>
    cases h
    cases col.coltype <;> trivial
  | int n =>
    cases h
    simp only [Column.isValidValue, Bool.and_eq_true] at hv
    cases hc : col.coltype with
    | int16 => rw [hc] at hv; simpa [Storable] using hv.2
    | int32 => rw [hc] at hv; simpa [Storable] using hv.2
    | str m => rw [hc] at hv; simp at hv
  | str s =>
    cases hc : col.coltype with
    | int16 => simp [Column.isValidValue, hc] at hv
    | int32 => simp [Column.isValidValue, hc] at hv
    | str m =>
      cases s with
      | nil => cases h; trivial
      | cons x xs =>
        obtain ⟨⟨q, r⟩, hi, he⟩ := Res.bind_eq_ok.mp h
        cases he
        -- the reference returned stands in the pool, and the pool is within its width
        obtain ⟨-, hpos, rc, hent, -⟩ := MsiProofs.C08.incref_accounting p (x :: xs) _ r hi
        have hle := (List.getElem?_eq_some_iff.mp hent).1
        obtain ⟨h3, h4⟩ := sized.incref p (x :: xs) _ r trivial hi
        have h3 := h3 hs
        unfold PoolSized at h3
        rw [h4] at h3
        refine ⟨hpos, ?_⟩
        cases hlr : p.longRefs
        · simp only [hlr, Bool.false_eq_true, if_false] at h3 ⊢; omega
        · simp only [hlr, if_true] at h3 ⊢; omega

theorem createCells_pref (all : List Column) : ∀ (cols : List Column) (vs0 : List Value) (k : Nat) (p : Pool)
    (acc : List Cell) (p' : Pool) (cs : List Cell),
    all.drop k = cols → vs0.length = cols.length →
    (∀ x ∈ cols.zip vs0, x.1.isValidValue x.2 = true) →
    PoolSized p → Pref p.longRefs all k acc.reverse →
    createCells p (vs0.map storable) acc = .ok (p', cs) → Pref p.longRefs all (k + cols.length) cs
  | [], [], _, _, _, _, _, _, _, _, _, hp, h => by cases h; exact hp
  | [], _ :: _, _, _, _, _, _, _, hl, _, _, _, _ => by simp at hl
  | _ :: _, [], _, _, _, _, _, _, hl, _, _, _, _ => by simp at hl
  | col :: cols, v :: vs, k, p, acc, p', cs, hdrop, hl, hval, hs, hp, h => by
    obtain ⟨hk, hdrop'⟩ := drop_eq_cons hdrop
    obtain ⟨⟨p1, c⟩, hc, h2⟩ := Res.bind_eq_ok.mp h
    have hst := create_storable p col v p1 c hs (hval (col, v) List.mem_cons_self) hc
    obtain ⟨hs1, hl1⟩ := MsiProofs.Loops.create_rel sized (fun _ _ => trivial) hc
    have hp1 : Pref p1.longRefs all (k + 1) (c :: acc).reverse := by
      rw [hl1, List.reverse_cons]
      exact pref_snoc p.longRefs all k acc.reverse c col hp hk hst
    have h1 := createCells_pref all cols vs (k + 1) p1 (c :: acc) p' cs hdrop' (by simpa using hl)
      (fun x hx => hval x (List.mem_cons_of_mem _ hx)) (hs1 hs) hp1 h2
    rw [hl1] at h1
    rwa [List.length_cons, ← Nat.add_assoc, Nat.add_right_comm]

end MsiProofs.RowsOk
