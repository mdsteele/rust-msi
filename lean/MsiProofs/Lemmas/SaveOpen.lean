import MsiModel.PkgApi
import MsiProofs.Lemmas.PoolCodec
import MsiProofs.Lemmas.PropSetLayout
import MsiProofs.Lemmas.Exec
/-
The save step and the open step, composed: the streams `finish` writes are the ones `open`
reads, and reading them gives the in-memory summary and string pool back.
-/
namespace MsiProofs.SaveOpen
open MsiModel MsiModel.Bytes MsiModel.Pkg MsiProofs.PoolCodec MsiProofs.PropSetCodec

/-! ### the container as a map under cfb's name comparison -/

/-- what cfb compares -/
def key (n : List Char) : Nat × List Char := (StreamName.utf16Len n, n.map Cont.upper)

theorem nameEq_iff (a b : List Char) : Cont.nameEq a b = true ↔ key a = key b := by
  unfold Cont.nameEq key
  simp [Prod.ext_iff]

theorem nameEq_refl (a : List Char) : Cont.nameEq a a = true := (nameEq_iff a a).mpr rfl

theorem nameEq_false_iff (a b : List Char) : Cont.nameEq a b = false ↔ key a ≠ key b := by
  rw [← Bool.not_eq_true, nameEq_iff]

def dataOf (c : List Entry) (n : List Char) : Option Bytes := (Cont.find c n).map (·.data)

theorem nameEq_congr {n m : List Char} (h : key n = key m) (a : List Char) : Cont.nameEq a n = Cont.nameEq a m := by
  rw [Bool.eq_iff_iff, nameEq_iff, nameEq_iff, h]

theorem find_map_put (c : List Entry) (n m : List Char) (d : Bytes) :
    ((c.map fun e => if Cont.nameEq e.name n then { e with data := d } else e).find?
      (fun e => Cont.nameEq e.name m)).map (·.data) =
      if key n = key m then (c.find? fun e => Cont.nameEq e.name n).map fun _ => d
      else (c.find? fun e => Cont.nameEq e.name m).map (·.data) := by
  induction c with
  | nil => simp
  | cons e rest ih =>
    simp only [List.map_cons, List.find?_cons]
    by_cases hk : key n = key m
    · simp only [hk, if_true, ← nameEq_congr hk] at ih ⊢
      cases he : Cont.nameEq e.name n
      · simpa [he] using ih
      · simp [he]
    · simp only [hk, if_false] at ih ⊢
      cases he : Cont.nameEq e.name n
      · cases hm : Cont.nameEq e.name m
        · simpa [he, hm] using ih
        · simp [hm]
      · have hm : Cont.nameEq e.name m = false := (nameEq_false_iff _ _).mpr ((nameEq_iff _ _).mp he ▸ hk)
        simpa [he, hm] using ih

theorem dataOf_put (c : List Entry) (n m : List Char) (d : Bytes) :
    dataOf (Cont.put c n d) m = if key n = key m then some d else dataOf c m := by
  unfold Cont.put Cont.exists_ dataOf Cont.find
  split
  · rename_i hex
    obtain ⟨e, he⟩ := Option.isSome_iff_exists.mp hex
    rw [find_map_put, he]
    rfl
  · rename_i hex
    have hnone := Option.not_isSome_iff_eq_none.mp hex
    rw [List.find?_append]
    by_cases hk : key n = key m
    · simp only [← nameEq_congr hk, hnone, hk, if_true]
      simp [nameEq_refl]
    · cases List.find? (fun e => Cont.nameEq e.name m) c <;> simp [hk, (nameEq_false_iff n m).mpr hk]

theorem dataOf_put_same (c : List Entry) (n : List Char) (d : Bytes) : dataOf (Cont.put c n d) n = some d := by
  rw [dataOf_put, if_pos rfl]

theorem dataOf_put_other (c : List Entry) (n m : List Char) (d : Bytes) (hnm : key n ≠ key m) :
    dataOf (Cont.put c n d) m = dataOf c m := by
  rw [dataOf_put, if_neg hnm]

theorem meta_names_distinct :
    key sPool ≠ key sData ∧ key sPool ≠ key sSummary ∧ key sData ≠ key sSummary := by
  decide +kernel


theorem streamOf_of_dataOf {c : List Entry} {n : List Char} {d : Bytes} (h : dataOf c n = some d) :
    streamOf c n = .ok d := by
  unfold dataOf at h
  unfold streamOf
  cases hf : Cont.find c n with
  | none => simp [hf] at h
  | some e => simp only [hf, Option.map_some, Option.some.injEq] at h; simp [h, pure]

/-! ### what the finisher leaves in the container -/

/-- the metadata streams of the container decode to the in-memory summary and string pool -/
structure Saved (s : Pkg) : Prop where
  summary : ∃ sb, dataOf s.cont sSummary = some sb ∧ Summary.read sb = .ok s.summary
  pool : ∃ pb db, dataOf s.cont sPool = some pb ∧ dataOf s.cont sData = some db ∧ Pool.read pb db = .ok s.pool

/-- what must hold of the in-memory state for a save to be readable: the summary is a
well-formed property set with the summary format id; the pool is expressible in the format
(`PoolOk`: in particular no live empty string) -/
structure Savable (s : Pkg) (E : List Char → Bytes) : Prop where
  summary : WF s.summary
  fmtid : s.summary.fmtid = Gen.summaryFmtid
  pool : PoolOk s.pool E

/-- **save, then read**: after a successful `finish`, the streams in the container decode to the
in-memory summary and pool, and nothing is pending; a part that was not pending is the one
already in the container -/
theorem finish_saved_general (s s' : Pkg) (E : List Char → Bytes) (hs : Savable s E)
    (hsum : s.summaryModified = false → ∃ sb, dataOf s.cont sSummary = some sb ∧ Summary.read sb = .ok s.summary)
    (hpool : s.pool.modified = false →
      ∃ pb db, dataOf s.cont sPool = some pb ∧ dataOf s.cont sData = some db ∧ Pool.read pb db = .ok s.pool)
    (h : finish s = (s', .ok ())) :
    Saved s' ∧ s'.summary = s.summary ∧ s'.pool = { s.pool with modified := false } ∧
    s'.summaryModified = false := by
  obtain ⟨c1, c2, h1, h2, rfl⟩ := Exec.finish_ok.mp h
  obtain ⟨hpd, hps, hds⟩ := meta_names_distinct
  -- after the first step the summary stream is good (written now, or there before), and the
  -- pool's two streams are as they were
  have hs1 : (∃ sb, dataOf c1 sSummary = some sb ∧ Summary.read sb = .ok s.summary) ∧
      ∀ m, key sSummary ≠ key m → dataOf c1 m = dataOf s.cont m := by
    cases hsm : s.summaryModified with
    | false =>
      simp only [hsm, Bool.false_eq_true, if_false] at h1
      rw [h1]
      exact ⟨hsum hsm, fun _ _ => rfl⟩
    | true =>
      simp only [hsm, if_true] at h1
      obtain ⟨sb, hw, rfl⟩ := h1
      obtain ⟨sb', hw', hr⟩ := propset_roundtrip s.summary hs.summary
      cases hw.symm.trans hw'
      exact ⟨⟨sb, dataOf_put_same _ _ _, by
        simp only [Summary.read, hr, Res.bind_ok, hs.fmtid, ne_eq, not_true_eq_false, if_false, Res.pure_eq]⟩,
        fun m hm => dataOf_put_other _ _ _ _ hm⟩
  obtain ⟨hs1, hp1⟩ := hs1
  refine ⟨?_, rfl, rfl, rfl⟩
  cases hpm : s.pool.modified with
  | false =>
    simp only [hpm, Bool.false_eq_true, if_false] at h2
    subst h2
    obtain ⟨pb, db, e1, e2, e3⟩ := hpool hpm
    refine ⟨hs1, pb, db, (hp1 _ (Ne.symm hps)).trans e1, (hp1 _ (Ne.symm hds)).trans e2, ?_⟩
    rw [e3, ← hpm]
  | true =>
    simp only [hpm, if_true] at h2
    obtain ⟨pb, db, hw, hd, rfl⟩ := h2
    obtain ⟨pb', db', hw', hd', hr⟩ := pool_roundtrip s.pool E hs.pool
    cases hw.symm.trans hw'
    cases hd.symm.trans hd'
    obtain ⟨sb, e1, e2⟩ := hs1
    exact ⟨⟨sb, by rw [dataOf_put_other _ _ _ _ hds, dataOf_put_other _ _ _ _ hps, e1], e2⟩,
      pb, db, by rw [dataOf_put_other _ _ _ _ (Ne.symm hpd), dataOf_put_same], dataOf_put_same _ _ _, hr⟩


/-! ### what `open` makes of a saved container -/

/-- `Pool.read` succeeding means the header checks `open` makes first succeed too -/
theorem pool_read_prechecks (pb db : Bytes) (p : Pool) (h : Pool.read pb db = .ok p) :
    ∃ hdr r, readU32 pb = .ok (hdr, r) ∧
      (∃ cp, CodePage.fromId ((hdr % Gen.longStringRefsBit : Nat) : Int) = some cp) ∧
      (∃ es, Pool.readEntries (r.length + 1) r [] = .ok es) := by
  unfold Pool.read at h
  obtain ⟨⟨hdr, r⟩, h1, h⟩ := Res.bind_eq_ok.mp h
  obtain ⟨cp, h2, h⟩ := Res.bind_eq_ok.mp h
  obtain ⟨es, h3, -⟩ := Res.bind_eq_ok.mp h
  exact ⟨hdr, r, h1, ⟨cp, Res.ofOption_eq_ok.mp h2⟩, ⟨es, h3⟩⟩

/-- **open after save**: on a container whose metadata streams are `Saved`, `open` reads back
exactly the in-memory summary and string pool; what remains is the catalog pass over the same
container with that pool -/
theorem openCore_of_saved (s : Pkg) (pt : Nat) (h : Saved s) :
    openCore (some pt) s.cont =
      (openTables pt s.cont s.summary s.pool).bind fun ts => .ok (pt, s.summary, s.pool, ts) := by
  obtain ⟨sb, hs1, hs2⟩ := h.summary
  obtain ⟨pb, db, hp1, hp2, hp3⟩ := h.pool
  obtain ⟨hdr, r, hr1, ⟨cp, hr2⟩, ⟨es, hr3⟩⟩ := pool_read_prechecks pb db s.pool hp3
  unfold openCore
  simp only [Res.ofOption, bind, Res.bind, streamOf_of_dataOf hs1, hs2, streamOf_of_dataOf hp1, hr1, hr2, hr3,
    streamOf_of_dataOf hp2, hp3, pure]

theorem reopen_same_meta (s : Pkg) (h : Saved s) (s2 : Pkg) (ho : open_ (some s.ptype) s.cont = .ok s2) :
    s2.cont = s.cont ∧ s2.summary = s.summary ∧ s2.pool = s.pool ∧ s2.ptype = s.ptype ∧
    s2.summaryModified = false ∧ s2.finisher = false ∧
    openTables s.ptype s.cont s.summary s.pool = .ok s2.tables := by
  unfold open_ at ho
  rw [openCore_of_saved s s.ptype h] at ho
  cases ht : openTables s.ptype s.cont s.summary s.pool with
  | err k => simp [ht, Res.bind] at ho
  | panic w => simp [ht, Res.bind] at ho
  | ok ts =>
    simp only [ht, Res.bind, Res.ok.injEq] at ho
    subst ho
    exact ⟨rfl, rfl, rfl, rfl, rfl, rfl, rfl⟩

theorem rows_same_after_reopen (s s2 : Pkg) (hc : s2.cont = s.cont) (t : Table) :
    s2.loadRows t = s.loadRows t := by
  unfold Pkg.loadRows; rw [hc]

end MsiProofs.SaveOpen
