import MsiProofs.Props.C03
import MsiProofs.Props.C09b
/-
Queries as trees (property C12): for every tree of joins, projections and filters, `Select::exec`
computes the comprehension ("relational algebra") reading of the tree — inner join = all
concatenations on which the condition holds, left-to-right; left join = additionally each
unmatched left row padded with nulls; filter = the rows on which the condition holds, in order;
projection = the named columns — and it never panics.
-/
namespace MsiProofs.SelectTree
open MsiModel MsiModel.Bytes MsiModel.Pkg MsiProofs.C09 MsiProofs.C12 MsiProofs.C03

/-- the rows of a join, as a comprehension -/
def joinSpec (p : Pool) (t : Table) (on : Ast) (isLeft : Bool) (k : Nat)
    (rows1 rows2 : List (List Cell)) : List (List Cell) :=
  rows1.flatMap fun r1 =>
    let ms := (rows2.filter fun r2 => condOn p t on (r1 ++ r2) == some true).map (r1 ++ ·)
    if isLeft && ms.isEmpty then [r1 ++ List.replicate k Cell.null] else ms

mutual
/-- the reading of a `Join` -/
def denoteJoin (s : Pkg) : Join → Res (Table × List (List Cell))
  | .table name =>
    match s.findTable name with
    | none => .err .notFound
    | some t => do
      let rows ← s.loadRows t
      pure (t, rows)
  | .inner l r on => do
    let (t1, rows1) ← denoteSelect s l
    let (t2, rows2) ← denoteSelect s r
    let cols := t1.columns.map (prefixed t1.name) ++ t2.columns.map (prefixed t2.name)
    let t : Table := ⟨[], cols, s.pool.longRefs⟩
    if missingColumns t on then .err .invalidInput else
    pure (t, joinSpec s.pool t on false t2.columns.length rows1 rows2)
  | .left l r on => do
    let (t1, rows1) ← denoteSelect s l
    let (t2, rows2) ← denoteSelect s r
    let cols := t1.columns.map (prefixed t1.name) ++
      t2.columns.map fun c => { prefixed t2.name c with isNullable := true }
    let t : Table := ⟨[], cols, s.pool.longRefs⟩
    if missingColumns t on then .err .invalidInput else
    pure (t, joinSpec s.pool t on true t2.columns.length rows1 rows2)

/-- the reading of a `Select` -/
def denoteSelect (s : Pkg) : Select → Res (Table × List (List Cell))
  | .mk from_ columns cond => do
    let (t, rows) ← denoteJoin s from_
    let indices ← projIndices t columns []
    if condMissing t cond then .err .invalidInput else
    let rows' := rows.filter fun r => condVal t s.pool cond r == some true
    if indices.isEmpty then pure (t, rows')
    else
      let cols := indices.map fun i => t.columns.getD i default
      pure (⟨[], cols, t.longRefs⟩, rows'.map fun r => indices.map fun i => r.getD i .null)
end

theorem condOn_total (p : Pool) (t : Table) (on : Ast) (hm : missingColumns t on = false)
    (row : List Cell) (hw : row.length = t.columns.length) : ∃ b, condOn p t on row = some b := by
  have hcols : ∀ n ∈ on.columns, n ∈ (mkRow t (rowValues p row)).cols := by
    intro n hn
    simp only [missingColumns, List.any_eq_false, Bool.not_eq_true'] at hm
    have := hm n hn
    exact hasColumn_mem t n (by simpa using this)
  obtain ⟨v, hv⟩ := MsiProofs.C13.eval_total on (mkRow t (rowValues p row))
    (by simp [mkRow, rowValues, hw]) hcols
  exact ⟨v.toBool, by simp [condOn, hv]⟩

theorem condVal_total (t : Table) (p : Pool) (cond : Option Ast) (hm : condMissing t cond = false)
    (row : List Cell) (hw : row.length = t.columns.length) : ∃ b, condVal t p cond row = some b := by
  cases cond with
  | none => exact ⟨true, rfl⟩
  | some e =>
    obtain ⟨b, hb⟩ := condOn_total p t e hm row hw
    unfold condOn at hb
    unfold condVal evalCond
    cases he : e.eval (mkRow t (rowValues p row)) with
    | ok v => exact ⟨v.toBool, by simp [he]⟩
    | err k => simp [he] at hb
    | panic w => simp [he] at hb

theorem joinSpec_width (p : Pool) (t : Table) (on : Ast) (isLeft : Bool) (n1 n2 : Nat)
    (rows1 rows2 : List (List Cell)) (h1 : Width n1 rows1) (h2 : Width n2 rows2) :
    Width (n1 + n2) (joinSpec p t on isLeft n2 rows1 rows2) := by
  intro r hr
  unfold joinSpec at hr
  simp only [List.mem_flatMap] at hr
  obtain ⟨r1, hr1, hr⟩ := hr
  split at hr
  · simp only [List.mem_singleton] at hr
    subst hr
    simp [h1 r1 hr1]
  · simp only [List.mem_map, List.mem_filter] at hr
    obtain ⟨r2, ⟨hr2, -⟩, rfl⟩ := hr
    simp [h1 r1 hr1, h2 r2 hr2]


theorem join_case (s : Pkg) (isLeft : Bool) (t1 t2 : Table) (rows1 rows2 : List (List Cell)) (on : Ast)
    (cols : List Column) (hcols : cols.length = t1.columns.length + t2.columns.length)
    (h1 : Width t1.columns.length rows1) (h2 : Width t2.columns.length rows2) :
    let t : Table := ⟨[], cols, s.pool.longRefs⟩
    (if missingColumns t on then (Res.err ErrKind.invalidInput : Res (Table × List (List Cell))) else do
      let rows ← joinRows s.pool t on isLeft t2.columns.length rows2 rows1 []
      pure (t, rows)) =
    (if missingColumns t on then Res.err ErrKind.invalidInput else
      pure (t, joinSpec s.pool t on isLeft t2.columns.length rows1 rows2)) := by
  intro t
  by_cases hm : missingColumns t on = true
  · simp [hm]
  · have hmf : missingColumns t on = false := by simpa using hm
    simp only [hmf, Bool.false_eq_true, if_false]
    have htot : ∀ r1 ∈ rows1, ∀ r2 ∈ rows2, ∃ b, condOn s.pool t on (r1 ++ r2) = some b := by
      intro r1 hr1 r2 hr2
      exact condOn_total s.pool t on hmf (r1 ++ r2) (by
        show (r1 ++ r2).length = cols.length
        simp [h1 r1 hr1, h2 r2 hr2, hcols])
    rw [joinRows_spec s.pool t on isLeft t2.columns.length rows2 rows1 [] htot]
    simp [joinSpec, bind, Res.bind, pure]

theorem join_width (s : Pkg) (isLeft : Bool) (t1 t2 : Table) (rows1 rows2 : List (List Cell)) (on : Ast)
    (cols : List Column) (hcols : cols.length = t1.columns.length + t2.columns.length)
    (h1 : Width t1.columns.length rows1) (h2 : Width t2.columns.length rows2) (t : Table) (rows : List (List Cell))
    (h : (if missingColumns ⟨[], cols, s.pool.longRefs⟩ on then (Res.err ErrKind.invalidInput : Res (Table × List (List Cell)))
      else pure (⟨[], cols, s.pool.longRefs⟩, joinSpec s.pool ⟨[], cols, s.pool.longRefs⟩ on isLeft t2.columns.length rows1 rows2)) =
        .ok (t, rows)) : Width t.columns.length rows := by
  split at h
  · cases h
  · cases h
    have := joinSpec_width s.pool ⟨[], cols, s.pool.longRefs⟩ on isLeft _ _ rows1 rows2 h1 h2
    rwa [← hcols] at this

mutual
/-- **`Join::exec` = its reading**, and its rows have one cell per result column -/
theorem joinExec_eq (s : Pkg) : (j : Join) →
    joinExec s j = denoteJoin s j ∧ ∀ t rows, denoteJoin s j = .ok (t, rows) → Width t.columns.length rows
  | .table name => by
    refine ⟨by unfold joinExec denoteJoin; rfl, ?_⟩
    intro t rows h
    unfold denoteJoin at h
    cases hf : s.findTable name with
    | none => simp [hf] at h
    | some t0 =>
      simp only [hf] at h
      obtain ⟨r, hl, he⟩ := Res.bind_eq_ok.mp h
      cases he
      exact loadRows_width s _ _ hl
  | .inner l r on => by
    obtain ⟨el, wl⟩ := selectExec_eq s l
    obtain ⟨er, wr⟩ := selectExec_eq s r
    unfold joinExec denoteJoin
    rw [el, er]
    -- the operands are destructured before the two sides are compared: comparing them as
    -- functions of the pairs makes the unifier unfold both pattern matches
    refine ⟨Res.bind_congr fun ⟨t1, rows1⟩ h1 => Res.bind_congr fun ⟨t2, rows2⟩ h2 =>
      join_case s false t1 t2 rows1 rows2 on _ (by simp) (wl _ _ h1) (wr _ _ h2), fun t rows h => ?_⟩
    obtain ⟨⟨t1, rows1⟩, h1, h⟩ := Res.bind_eq_ok.mp h
    obtain ⟨⟨t2, rows2⟩, h2, h⟩ := Res.bind_eq_ok.mp h
    exact join_width s false t1 t2 rows1 rows2 on _ (by simp) (wl _ _ h1) (wr _ _ h2) t rows h
  | .left l r on => by
    obtain ⟨el, wl⟩ := selectExec_eq s l
    obtain ⟨er, wr⟩ := selectExec_eq s r
    unfold joinExec denoteJoin
    rw [el, er]
    refine ⟨Res.bind_congr fun ⟨t1, rows1⟩ h1 => Res.bind_congr fun ⟨t2, rows2⟩ h2 =>
      join_case s true t1 t2 rows1 rows2 on _ (by simp) (wl _ _ h1) (wr _ _ h2), fun t rows h => ?_⟩
    obtain ⟨⟨t1, rows1⟩, h1, h⟩ := Res.bind_eq_ok.mp h
    obtain ⟨⟨t2, rows2⟩, h2, h⟩ := Res.bind_eq_ok.mp h
    exact join_width s true t1 t2 rows1 rows2 on _ (by simp) (wl _ _ h1) (wr _ _ h2) t rows h

/-- **`Select::exec` = its reading**, and its rows have one cell per result column -/
theorem selectExec_eq (s : Pkg) : (q : Select) →
    selectExec s q = denoteSelect s q ∧ ∀ t rows, denoteSelect s q = .ok (t, rows) → Width t.columns.length rows
  | .mk from_ columns cond => by
    obtain ⟨ej, wj⟩ := joinExec_eq s from_
    constructor
    · unfold selectExec denoteSelect
      rw [ej]
      refine Res.bind_congr fun x hj => Res.bind_congr fun indices _ => ?_
      obtain ⟨t, rows⟩ := x
      cases hm : condMissing t cond with
      | true => rfl
      | false =>
        simp only [Bool.false_eq_true, if_false]
        rw [filterRows_spec t s.pool cond rows [] (fun r hr => condVal_total t s.pool cond hm r (wj t rows hj r hr))]
        rfl
    · intro t rows h
      unfold denoteSelect at h
      obtain ⟨⟨t0, rows0⟩, hj, h⟩ := Res.bind_eq_ok.mp h
      obtain ⟨indices, -, h⟩ := Res.bind_eq_ok.mp h
      have hw := wj t0 rows0 hj
      split at h
      · cases h
      · split at h
        · cases h
          exact fun r hr => hw r (List.mem_filter.mp hr).1
        · cases h
          intro r hr
          obtain ⟨r0, -, rfl⟩ := List.mem_map.mp hr
          simp
end


theorem np_projIndices (t : Table) (names : List (List Char)) : ∀ acc, NoPanic (projIndices t names acc) := by
  induction names with
  | nil => intro acc; exact np_pure _
  | cons n ns ih =>
    intro acc
    simp only [projIndices]
    split
    · exact ih _
    · exact np_err _

mutual
theorem np_denoteJoin (s : Pkg) : (j : Join) → NoPanic (denoteJoin s j)
  | .table name => by
    unfold denoteJoin
    split
    · exact np_err _
    · exact np_bind (np_loadRows _ _) fun _ => np_pure _
  | .inner l r on => by
    unfold denoteJoin
    exact np_bind (np_denoteSelect s l) fun _ => np_bind (np_denoteSelect s r) fun _ =>
      np_ite (np_err _) (np_pure _)
  | .left l r on => by
    unfold denoteJoin
    exact np_bind (np_denoteSelect s l) fun _ => np_bind (np_denoteSelect s r) fun _ =>
      np_ite (np_err _) (np_pure _)
theorem np_denoteSelect (s : Pkg) : (q : Select) → NoPanic (denoteSelect s q)
  | .mk from_ columns cond => by
    unfold denoteSelect
    exact np_bind (np_denoteJoin s from_) fun _ => np_bind (np_projIndices _ _ _) fun _ =>
      np_ite (np_err _) (np_ite (np_pure _) (np_pure _))
end

/-- **`Select::exec` never panics**, on any package state and any query tree -/
theorem select_never_panics (s : Pkg) (q : Select) : NoPanic (selectExec s q) := by
  rw [(selectExec_eq s q).1]; exact np_denoteSelect s q

end MsiProofs.SelectTree
