import MsiProofs.Lemmas.SelectTree
import MsiProofs.Lemmas.Relational
/-
Select on the relational view (properties C03, C12): a select on a table returns — as values —
exactly the rows the table shows on which the condition is true, in the order the table shows them
(ascending primary-key order in every state with sorted tables), restricted to the requested
columns in the requested order; the number of rows returned is the number of rows satisfying the
condition.
-/
namespace MsiProofs.SelectView
open MsiModel MsiModel.Bytes MsiModel.Pkg MsiProofs.GlobalInv MsiProofs.SortedInv MsiProofs.Relational
open MsiProofs.SelectTree MsiProofs.C03

/-- the requested columns of a row of values -/
def projV (indices : List Nat) (row : List Value) : List Value := indices.map fun i => row.getD i .null

theorem toValue_getD (p : Pool) (r : List Cell) (i : Nat) :
    Cell.toValue p (r.getD i .null) = (rowValues p r).getD i .null := by
  unfold rowValues
  simp only [List.getD_eq_getElem?_getD, List.getElem?_map]
  cases r[i]? <;> rfl

theorem rowValues_proj (p : Pool) (indices : List Nat) (r : List Cell) :
    rowValues p (indices.map fun i => r.getD i .null) = projV indices (rowValues p r) := by
  unfold projV
  show (indices.map fun i => r.getD i .null).map (Cell.toValue p) = _
  rw [List.map_map]
  apply List.map_congr_left
  intro i _
  exact toValue_getD p r i

theorem condVal_true_iff (t : Table) (p : Pool) (cond : Option Ast) (r : List Cell) :
    (condVal t p cond r == some true) = (condV t cond (rowValues p r) == .ok true) := by
  unfold condVal
  rw [evalCond_eq]
  cases condV t cond (rowValues p r) with
  | ok b => cases b <;> rfl
  | err k => rfl
  | panic w => rfl

/-- **a select on a table, read off the relational view** -/
theorem select_table_view (s : Pkg) (name : List Char) (cols : List (List Char)) (cond : Option Ast)
    (t : Table) (ht : s.findTable name = some t) (rows : List (List Cell)) (hl : s.loadRows t = .ok rows)
    (indices : List Nat) (hp : projIndices t cols [] = .ok indices) (hm : condMissing t cond = false) :
    ∃ t' out, selectExec s (.mk (.table name) cols cond) = .ok (t', out) ∧
      out.map (rowValues s.pool) =
        (if indices.isEmpty then (tableView s t).filter fun v => condV t cond v == .ok true
         else ((tableView s t).filter fun v => condV t cond v == .ok true).map (projV indices)) ∧
      out.length = ((tableView s t).filter fun v => condV t cond v == .ok true).length := by
  rw [(selectExec_eq s _).1]
  unfold denoteSelect denoteJoin
  simp only [ht, hl, bind, Res.bind, pure, hp, hm, Bool.false_eq_true, if_false]
  have hfilt : (rows.filter fun r => condVal t s.pool cond r == some true).map (rowValues s.pool) =
      (tableView s t).filter fun v => condV t cond v == .ok true := by
    rw [tableView_ok hl, List.filter_map]
    congr 1
    apply List.filter_congr
    intro r _
    simp only [Function.comp]
    exact condVal_true_iff t s.pool cond r
  by_cases he : indices.isEmpty = true
  · simp only [he, if_true]
    exact ⟨_, _, rfl, hfilt, by rw [← hfilt, List.length_map]⟩
  · simp only [he, Bool.false_eq_true, if_false]
    refine ⟨_, _, rfl, ?_, by rw [← hfilt]; simp⟩
    rw [← hfilt, List.map_map, List.map_map]
    apply List.map_congr_left
    intro r _
    exact rowValues_proj s.pool indices r

theorem select_order (s : Pkg) (hS : SortedAll s) (t : Table) (ht : t ∈ s.tables) (cond : Option Ast) :
    Ascending t ((tableView s t).filter fun v => condV t cond v == .ok true) := by
  have := view_ascending s hS t ht
  unfold Ascending at this ⊢
  exact this.sublist ((List.filter_sublist).map _)

end MsiProofs.SelectView
