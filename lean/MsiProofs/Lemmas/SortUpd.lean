import MsiProofs.Lemmas.GlobalInvUpd
/-
Key order through `Update::exec`: `sortByKey` is an insertion sort by key; together with the
duplicate check it leaves the rows in strictly ascending key order.
-/
namespace MsiProofs.SortUpd
open MsiModel MsiModel.Bytes MsiModel.Pkg MsiProofs.Order

/-- `b` does not come before `a` -/
def Le (keys : List (List Value)) (a b : Nat) : Prop := keyLt (keys.getD b []) (keys.getD a []) = false

theorem insByKey_sorted (keys : List (List Value)) (x : Nat) (l : List Nat) (h : l.Pairwise (Le keys)) :
    (insByKey keys x l).Pairwise (Le keys) := by
  induction l with
  | nil => simp [insByKey]
  | cons y ys ih =>
    obtain ⟨h1, h2⟩ := List.pairwise_cons.mp h
    simp only [insByKey]
    split
    · rename_i hlt
      apply List.pairwise_cons.mpr
      refine ⟨?_, h⟩
      intro z hz
      simp only [List.mem_cons] at hz
      rcases hz with rfl | hz
      · exact keyLt_asymm hlt
      · -- x < y and ¬ (z < y): z < x would give z < y
        unfold Le
        cases hzx : keyLt (keys.getD z []) (keys.getD x []) with
        | false => rfl
        | true =>
          have := keyLt_trans hzx hlt
          have hyz := h1 z hz
          unfold Le at hyz
          rw [this] at hyz; cases hyz
    · rename_i hnlt
      apply List.pairwise_cons.mpr
      refine ⟨?_, ih h2⟩
      intro z hz
      have := (MsiProofs.C05.insByKey_perm keys x ys).mem_iff.mp hz
      simp only [List.mem_cons] at this
      rcases this with rfl | hzy
      · unfold Le; simpa using hnlt
      · exact h1 z hzy

theorem sortByKey_sorted (keys : List (List Value)) (order : List Nat) :
    (sortByKey keys order).Pairwise (Le keys) := by
  unfold sortByKey
  generalize order.reverse = l
  have : ∀ (acc : List Nat), acc.Pairwise (Le keys) →
      (l.foldl (fun acc x => insByKey keys x acc) acc).Pairwise (Le keys) := by
    induction l with
    | nil => intro acc h; exact h
    | cons x xs ih => intro acc h; exact ih _ (insByKey_sorted keys x acc h)
  exact this [] List.Pairwise.nil

theorem strict_of_sorted_nodup (keys : List (List Value)) (l : List Nat) (hs : l.Pairwise (Le keys))
    (hd : ((l.zip (l.drop 1)).any fun x =>
      !keyLt (keys.getD x.1 []) (keys.getD x.2 []) && !keyLt (keys.getD x.2 []) (keys.getD x.1 [])) = false) :
    l.Pairwise fun a b => keyLt (keys.getD a []) (keys.getD b []) = true := by
  induction l with
  | nil => exact List.Pairwise.nil
  | cons a rest ih =>
    obtain ⟨h1, h2⟩ := List.pairwise_cons.mp hs
    cases rest with
    | nil => simp
    | cons b rest' =>
      simp only [List.drop_succ_cons, List.drop_zero, List.zip_cons_cons, List.any_cons, Bool.or_eq_false_iff] at hd
      obtain ⟨hab, hrest⟩ := hd
      have hablt : keyLt (keys.getD a []) (keys.getD b []) = true := by
        have hba : keyLt (keys.getD b []) (keys.getD a []) = false := h1 b (by simp)
        cases hlt : keyLt (keys.getD a []) (keys.getD b []) with
        | true => rfl
        | false =>
          simp only [List.getD_eq_getElem?_getD] at hlt hba
          simp [hlt, hba] at hab
      have ihr := ih h2 (by simpa using hrest)
      apply List.pairwise_cons.mpr
      refine ⟨?_, ihr⟩
      intro z hz
      simp only [List.mem_cons] at hz
      rcases hz with rfl | hz
      · exact hablt
      · have hbz := (List.pairwise_cons.mp ihr).1 z hz
        exact keyLt_trans hablt hbz


open MsiProofs.RefineUpdate MsiProofs.Refine MsiProofs.RefineDelete MsiProofs.RefineExact MsiProofs.GlobalInv
open MsiProofs.SortedInv MsiProofs.RowsOk MsiProofs.SaveOpen

theorem getD_set_ne {α} (l : List α) (i j : Nat) (v d : α) (h : i ≠ j) : (l.set i v).getD j d = l.getD j d := by
  simp [List.getD, List.getElem?_set_ne h]

theorem keyOf_applyUps (keyIdx : List Nat) (ups : List (Nat × Value)) (h : ∀ x ∈ ups, x.1 ∉ keyIdx) :
    ∀ (vals : List Value), keyOf keyIdx (applyUps ups vals) = keyOf keyIdx vals := by
  induction ups with
  | nil => intro vals; rfl
  | cons u rest ih =>
    intro vals
    simp only [applyUps, List.foldl_cons]
    have := ih (fun x hx => h x (by simp [hx])) (vals.set u.1 u.2)
    simp only [applyUps] at this
    rw [this]
    unfold keyOf
    apply List.map_congr_left
    intro j hj
    exact getD_set_ne vals u.1 j u.2 .null (fun e => h u (by simp) (e ▸ hj))


def touchesKeys (t : Table) (ups : List (Nat × Value)) : Bool := ups.any fun x => t.keyIndices.contains x.1

theorem map_getD_map {α β} (l : List α) (f : α → β) (d : α) (order : List Nat) (h : ∀ i ∈ order, i < l.length) :
    order.map (fun i => f (l.getD i d)) = order.map (fun i => (l.map f).getD i (f d)) := by
  apply List.map_congr_left
  intro i hi
  have := h i hi
  simp [List.getD, this]

/-- **a successful update keeps every table in ascending key order** -/
theorem update_sorted (slack : Nat → Nat) (s : Pkg) (tname : List Char) (updates : List (List Char × Value))
    (cond : Option Ast) (s' : Pkg) (hI : Inv slack s) (hS : SortedAll s)
    (h : updateExec s tname updates cond = (s', .ok ())) : SortedAll s' := by
  obtain ⟨t, existing, hf, htm, hl, hlr, hrs⟩ := hI.found (Exec.updateExec_eq s tname updates cond ▸ h)
  refine step_sorted hI hS htm hl (MsiProofs.GlobalInvUpd.update_step h hf hl hI.sized hlr hrs) fun stored hst => ?_
  obtain ⟨others, hposAll, hacc⟩ := cells_split hI htm hl
  obtain ⟨rows', bs, hlen, hdup, -, hload, hvals, -⟩ :=
    update_core slack h hf hl others hposAll hacc hI.sized hlr hrs
  rw [hload] at hst
  cases hst
  generalize hpl : existing.map (MsiProofs.LoopSpecs.planRow t s.pool cond (upsOf t updates)) = planned at hdup hvals ⊢
  have hplen : planned.length = existing.length := by rw [← hpl, List.length_map]
  -- the keys of the rows written are the planned keys, in the order written
  have hkeys : ∀ i, i < rows'.length →
      keyOf t.keyIndices (rowValues s'.pool (rows'.getD i [])) = (Exec.planKeys t planned).getD i [] := by
    intro i hi
    have hi2 : i < planned.length := by omega
    have h8 := congrArg (·[i]?) hvals
    simp only [List.getElem?_map, List.getElem?_eq_getElem hi, List.getElem?_eq_getElem hi2,
      Option.map_some, Option.some.injEq] at h8
    simp only [Exec.planKeys, List.getD, List.getElem?_map, List.getElem?_eq_getElem hi, List.getElem?_eq_getElem hi2,
      Option.map_some, Option.getD_some]
    rw [h8]
  unfold KeysAscending
  have hmapeq : (Exec.writeOrder t (upsOf t updates) planned existing.length).map
        ((fun cells => keyOf t.keyIndices (rowValues s'.pool cells)) ∘ fun i => rows'.getD i []) =
      (Exec.writeOrder t (upsOf t updates) planned existing.length).map fun i => (Exec.planKeys t planned).getD i [] :=
    List.map_congr_left fun i hi =>
      hkeys i (by simpa [hlen] using (writeOrder_perm t _ planned _).mem_iff.mp hi)
  rw [List.map_map, hmapeq]
  by_cases htk : touchesKeys t (upsOf t updates) = true
  · -- re-sorted by key, and the duplicate check passed
    have hord : Exec.writeOrder t (upsOf t updates) planned existing.length =
        sortByKey (Exec.planKeys t planned) (List.range existing.length) := if_pos htk
    unfold Exec.dupKeys at hdup
    rw [hord] at hdup ⊢
    rw [show ((upsOf t updates).any fun x => t.keyIndices.contains x.1) = true from htk, Bool.true_and] at hdup
    rw [List.pairwise_map]
    exact strict_of_sorted_nodup (Exec.planKeys t planned) _ (sortByKey_sorted _ _) hdup
  · -- no key column assigned: the stored order is kept and so are the keys
    have hnot : ∀ u ∈ upsOf t updates, u.1 ∉ t.keyIndices := fun u hu hin =>
      htk (List.any_eq_true.mpr ⟨u, hu, by simpa using hin⟩)
    have hkl : (Exec.planKeys t planned).length = existing.length := by rw [Exec.planKeys, List.length_map, hplen]
    have hsame : Exec.planKeys t planned = existing.map fun cells => keyOf t.keyIndices (rowValues s.pool cells) := by
      rw [← hpl, Exec.planKeys, List.map_map]
      refine List.map_congr_left fun r _ => ?_
      simp only [Function.comp, MsiProofs.LoopSpecs.planRow]
      split
      · exact keyOf_applyUps t.keyIndices _ hnot _
      · rfl
    rw [show Exec.writeOrder t (upsOf t updates) planned existing.length = List.range existing.length from if_neg htk,
      ← hkl, range_map_getD, hsame]
    exact hS t htm existing hl

theorem op_sorted (slack : Nat → Nat) (s : Pkg) (op : MsiProofs.GlobalInvUpd.Op) (hI : Inv slack s)
    (hS : SortedAll s) : SortedAll (op.run s) := by
  cases op with
  | insert t rows => exact SortedInv.op_sorted slack s (.insert t rows) hI hS
  | delete t cond => exact SortedInv.op_sorted slack s (.delete t cond) hI hS
  | update t ups cond =>
    exact step_cases (MsiProofs.GlobalInvUpd.update_refused_noop slack s t ups cond hI) hS
      fun s' h => update_sorted slack s t ups cond s' hI hS h

/-- **every history of inserts, updates and deletes, on any tables, accepted or refused, keeps the
package invariant and keeps every table's keys unique and ascending** -/
theorem history_sorted (slack : Nat → Nat) (ops : List MsiProofs.GlobalInvUpd.Op) : ∀ (s : Pkg),
    Inv slack s → SortedAll s →
    Inv slack (ops.foldl MsiProofs.GlobalInvUpd.Op.run s) ∧ SortedAll (ops.foldl MsiProofs.GlobalInvUpd.Op.run s) :=
  fun s h1 h2 => foldl_keeps (P := fun s => Inv slack s ∧ SortedAll s)
    (fun s op h => ⟨MsiProofs.GlobalInvUpd.op_inv slack s op h.1, op_sorted slack s op h.1 h.2⟩) ops s ⟨h1, h2⟩

end MsiProofs.SortUpd
