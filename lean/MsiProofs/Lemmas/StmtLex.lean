import MsiProofs.Lemmas.ExprLex
import MsiModel.QueryFmt
import MsiModel.StmtLex
/-
C19 for the statements, from characters: a reader of the printed TEXT of `UPDATE`, `DELETE` and
`INSERT` statements (`QueryFmt.fmtUpdate` / `fmtDelete` / `fmtInsert`, the models of the three
`Display` implementations), and the theorems that it gives the statement back.

The reader follows the grammar's shape: fixed keywords with their blanks, an identifier (a run of
identifier characters), a literal (a quoted run without quotes or backslashes, or a run up to the
next `,`, blank or `)`, handed to the expression lexer `lex`, which must answer with exactly one
literal token), `, ` between assignments, values and rows, and after ` WHERE ` the expression
reader of C19 (`readText`) on the rest of the text.
-/
namespace MsiProofs.StmtLex
open MsiModel MsiProofs.ExprLex MsiModel.QueryFmt MsiModel.StmtLex

theorem strip_append (p s : List Char) : strip p (p ++ s) = some s := by
  induction p with
  | nil => cases s <;> rfl
  | cons a p ih => simp [strip, ih]

theorem mapM_cons_eq_some {α β} {f : α → Option β} {x : α} {xs : List α} {ps : List β} :
    (x :: xs).mapM f = some ps ↔ ∃ p ps', f x = some p ∧ xs.mapM f = some ps' ∧ ps = p :: ps' := by
  rw [List.mapM_cons]
  cases f x <;> cases xs.mapM f <;> simp [eq_comm]

theorem mapM_nil_eq_some {α β} {f : α → Option β} {ps : List β} : ([] : List α).mapM f = some ps ↔ ps = [] := by
  rw [List.mapM_nil]; exact ⟨fun h => by cases h; rfl, fun h => by rw [h]; rfl⟩

theorem mapM_length {α β} {f : α → Option β} : ∀ {xs : List α} {ps : List β}, xs.mapM f = some ps → ps.length = xs.length
  | [], _, h => by rw [mapM_nil_eq_some.mp h]; rfl
  | x :: xs, _, h => by
    obtain ⟨p, ps', -, h', rfl⟩ := mapM_cons_eq_some.mp h
    rw [List.length_cons, List.length_cons, mapM_length h']

theorem joinWith_cons_cons (sep x y : List Char) (r : List (List Char)) :
    joinWith sep (x :: y :: r) = x ++ sep ++ joinWith sep (y :: r) := rfl

theorem length_le_joinWith (sep : List Char) (hs : 0 < sep.length) : ∀ ps, ps.length ≤ (joinWith sep ps).length + 1
  | [] => Nat.zero_le _
  | [x] => by simp
  | x :: y :: r => by
    have := length_le_joinWith sep hs (y :: r)
    rw [joinWith_cons_cons]
    simp only [List.length_cons, List.length_append] at this ⊢
    omega

theorem strip_cons_ne {p c : Char} (ps cs : List Char) (h : p ≠ c) : strip (p :: ps) (c :: cs) = none := by
  rw [strip, if_neg h]

/-- the text that follows does not continue the run -/
def Stops (p : Char → Bool) (rest : List Char) : Prop := ∀ c r, rest = c :: r → p c = false

theorem stops_nil (p : Char → Bool) : Stops p [] := fun _ _ h => by cases h
theorem stops_cons {p : Char → Bool} {c : Char} (r : List Char) (h : p c = false) : Stops p (c :: r) :=
  fun _ _ e => by cases e; exact h

theorem spanP_append (p : Char → Bool) (n rest : List Char) (hn : ∀ c ∈ n, p c = true)
    (hr : Stops p rest) : spanP p (n ++ rest) = (n, rest) := by
  induction n with
  | nil =>
    cases rest with
    | nil => rfl
    | cons c r => simp [spanP, hr c r rfl]
  | cons a n ih =>
    have ha : p a = true := hn a (by simp)
    have := ih (fun c hc => hn c (by simp [hc]))
    simp [spanP, ha, this]

/-! ### literals -/

theorem lex_display (v : Value) (s : List Char) (h : v.display = some s) : lex s = some [.lit v] := by
  have := lex_lit v s h [] [] follow_nil (by rw [lexFrom_nil]; rfl)
  simpa [lex] using this

theorem digit_litChar {c : Char} (h : isDigitC c = true) : litChar c = true ∧ c ≠ '"' := by
  constructor
  · simp only [litChar, Bool.and_eq_true, bne_iff_ne, ne_eq]
    refine ⟨⟨?_, ?_⟩, ?_⟩ <;> (intro e; subst e; revert h; decide)
  · intro e; subst e; revert h; decide

theorem takeLit_plain (c : Char) (w rest : List Char) (hq : c ≠ '"')
    (hall : ∀ x ∈ c :: w, litChar x = true) (hr : Stops litChar rest) :
    takeLit (c :: w ++ rest) = some (c :: w, rest) := by
  have hsp := spanP_append litChar (c :: w) rest hall hr
  simp only [List.cons_append] at hsp ⊢
  simp only [takeLit, if_neg hq, hsp]

theorem takeLit_quoted (t rest : List Char) (hnq : ∀ c ∈ t, notQuote c = true) :
    takeLit ('"' :: t ++ ['"'] ++ rest) = some ('"' :: t ++ ['"'], rest) := by
  have hsp := spanP_append notQuote t ('"' :: rest) hnq (stops_cons rest (by decide))
  have e : '"' :: t ++ ['"'] ++ rest = '"' :: (t ++ '"' :: rest) := by simp
  rw [e]
  simp only [takeLit, if_pos, hsp]

/-- a printed literal is a quoted run without quotes, or a run of literal characters that does
not start with a quote: the two forms `takeLit` cuts off -/
theorem display_shape {v : Value} {s : List Char} (h : v.display = some s) :
    (∃ t, s = '"' :: t ++ ['"'] ∧ ∀ c ∈ t, notQuote c = true) ∨
    (∃ c w, s = c :: w ∧ c ≠ '"' ∧ ∀ x ∈ c :: w, litChar x = true) := by
  rcases display_inv h with ⟨-, rfl⟩ | ⟨t, -, ht, rfl⟩ | ⟨n, neg, d, ds, -, -, hd, rfl, -⟩
  · exact .inr ⟨'N', _, rfl, by decide, by decide⟩
  · refine .inl ⟨t, rfl, fun c hc => ?_⟩
    have := ht c hc
    simp only [Value.plainChar, Bool.and_eq_true, bne_iff_ne, ne_eq] at this
    simp only [notQuote, bne_iff_ne, ne_eq]
    exact this.1.2
  · have hl : ∀ x ∈ d :: ds, litChar x = true := fun x hx => (digit_litChar (hd x hx)).1
    cases neg with
    | true =>
      refine .inr ⟨'-', d :: ds, rfl, by decide, fun x hx => ?_⟩
      rcases List.mem_cons.mp hx with rfl | hx
      · decide
      · exact hl x hx
    | false => exact .inr ⟨d, ds, rfl, (digit_litChar (hd d List.mem_cons_self)).2, hl⟩

theorem readLit_display (v : Value) (s : List Char) (h : v.display = some s) (rest : List Char)
    (hr : Stops litChar rest) : readLit (s ++ rest) = some (v, rest) := by
  have key : takeLit (s ++ rest) = some (s, rest) := by
    rcases display_shape h with ⟨t, rfl, ht⟩ | ⟨c, w, rfl, hq, hall⟩
    · exact takeLit_quoted t rest ht
    · exact takeLit_plain c w rest hq hall hr
  simp only [readLit, key, lex_display v s h]

/-! ### identifiers -/

def IdChars (n : List Char) : Prop := ∀ c ∈ n, isIdChar c = true

theorem goodIdent_idChars {n : List Char} (h : GoodIdent n) : IdChars n := by
  obtain ⟨c, w, rfl, hc, hw, _⟩ := h
  intro x hx
  rcases List.mem_cons.mp hx with rfl | hx
  · simp [isIdChar, hc]
  · exact hw x hx

theorem stops_space (r : List Char) : Stops isIdChar (' ' :: r) := stops_cons r (by decide)

/-! ### DELETE -/

theorem strip_where_nil : strip " WHERE ".toList [] = none := rfl
theorem strip_comma_nil : strip ", ".toList [] = none := rfl
theorem strip_comma_where (x : List Char) : strip ", ".toList (" WHERE ".toList ++ x) = none :=
  strip_cons_ne (p := ',') (c := ' ') [' '] ("WHERE ".toList ++ x) (by decide)

/-- the conditions in the domain of the lexical theorem -/
def GoodCond : Option Ast → Prop
  | none => True
  | some e => Good e

theorem optWhere_cases (cond : Option Ast) (w : List Char) (h : optWhere cond = some w) :
    (cond = none ∧ w = []) ∨ (∃ e x, cond = some e ∧ e.fmt = some x ∧ w = " WHERE ".toList ++ x) := by
  cases cond with
  | none => cases h; exact .inl ⟨rfl, rfl⟩
  | some e =>
    obtain ⟨x, hx, rfl⟩ := Option.map_eq_some_iff.mp h
    exact .inr ⟨e, x, rfl, hx, rfl⟩

theorem readWhereText_opt (cond : Option Ast) (hg : GoodCond cond) (w : List Char)
    (h : optWhere cond = some w) : readWhereText w = some cond ∧ Stops isIdChar w := by
  rcases optWhere_cases cond w h with ⟨rfl, rfl⟩ | ⟨e, x, rfl, hx, rfl⟩
  · exact ⟨by simp only [readWhereText, strip_where_nil], stops_nil _⟩
  · constructor
    · have hr := readText_fmt e hg x hx
      simp only [readWhereText, strip_append, hr, Option.map_some]
    · exact stops_space _

/-- **reading a printed DELETE gives the statement back** -/
theorem readDeleteText_fmt (t : List Char) (cond : Option Ast) (ht : IdChars t) (hg : GoodCond cond)
    (s : List Char) (h : fmtDelete t cond = some s) : readDeleteText s = some (t, cond) := by
  obtain ⟨w, hw, h⟩ := Option.bind_eq_some_iff.mp h
  cases h
  obtain ⟨h1, h2⟩ := readWhereText_opt cond hg w hw
  rw [List.append_assoc]
  simp only [readDeleteText, strip_append, spanP_append isIdChar t w ht h2, h1]
  rfl

/-! ### UPDATE -/

/-- the text of one assignment, as `fmtUpdate` writes it -/
def assignText (x : List Char × Value) : Option (List Char) :=
  x.2.display.map fun s => x.1 ++ " = ".toList ++ s

/-- the tail of an UPDATE after the assignments -/
inductive Tail : List Char → Option (List Char) → Prop
  | none : Tail [] none
  | wh (x : List Char) : Tail (" WHERE ".toList ++ x) (some x)

theorem tail_stops {w : List Char} {o : Option (List Char)} (h : Tail w o) : Stops litChar w := by
  cases h with
  | none => exact stops_nil _
  | wh x => exact stops_cons _ (by decide)

theorem readAssignsText_fmt (ups : List (List Char × Value)) :
    ∀ (parts : List (List Char)) (fuel : Nat) (w : List Char) (o : Option (List Char)),
      ups ≠ [] → (∀ p ∈ ups, IdChars p.1) → ups.mapM assignText = some parts → ups.length ≤ fuel → Tail w o →
      readAssignsText fuel (joinWith ", ".toList parts ++ w) = some (ups, o) := by
  induction ups with
  | nil => intro _ _ _ _ h; exact absurd rfl h
  | cons a rest ih =>
    intro parts fuel w o _ hid hp hf ht
    obtain ⟨p, ps, hd, hrest, rfl⟩ := mapM_cons_eq_some.mp hp
    obtain ⟨sv, hsv, rfl⟩ := Option.map_eq_some_iff.mp hd
    obtain ⟨c, v⟩ := a
    have hc : IdChars c := hid (c, v) List.mem_cons_self
    cases fuel with
    | zero => simp at hf
    | succ fuel =>
      cases rest with
      | nil =>
        -- the last assignment: followed by the tail
        cases mapM_nil_eq_some.mp hrest
        have e1 : joinWith ", ".toList [c ++ " = ".toList ++ sv] ++ w = c ++ (" = ".toList ++ (sv ++ w)) := by
          simp [joinWith]
        rw [e1, readAssignsText, spanP_append isIdChar c (" = ".toList ++ (sv ++ w)) hc (stops_space _)]
        simp only [strip_append, readLit_display v sv hsv w (tail_stops ht)]
        cases ht with
        | none => simp only [strip_comma_nil, strip_where_nil]
        | wh x => simp only [strip_comma_where, strip_append]
      | cons b rest' =>
        obtain ⟨p2, ps', -, -, rfl⟩ := mapM_cons_eq_some.mp hrest
        have e1 : joinWith ", ".toList ((c ++ " = ".toList ++ sv) :: p2 :: ps') ++ w
            = c ++ (" = ".toList ++ (sv ++ (", ".toList ++ (joinWith ", ".toList (p2 :: ps') ++ w)))) := by
          simp [joinWith_cons_cons]
        have hrec := ih (p2 :: ps') fuel w o (List.cons_ne_nil _ _) (fun p hp => hid p (List.mem_cons_of_mem _ hp))
          hrest (Nat.le_of_succ_le_succ hf) ht
        rw [e1, readAssignsText, spanP_append isIdChar c
          (" = ".toList ++ (sv ++ (", ".toList ++ (joinWith ", ".toList (p2 :: ps') ++ w)))) hc (stops_space _)]
        simp only [strip_append, hrec, Option.map_some,
          readLit_display v sv hsv (", ".toList ++ (joinWith ", ".toList (p2 :: ps') ++ w)) (stops_cons _ (by decide))]

/-- **reading a printed UPDATE gives the statement back**: the table, every assignment with its
value in order (a column assigned twice stays assigned twice), and the condition -/
theorem readUpdateText_fmt (t : List Char) (ups : List (List Char × Value)) (cond : Option Ast)
    (ht : IdChars t) (hne : ups ≠ []) (hid : ∀ p ∈ ups, IdChars p.1) (hg : GoodCond cond)
    (s : List Char) (h : fmtUpdate t ups cond = some s) : readUpdateText s = some (t, ups, cond) := by
  obtain ⟨parts, hp, h⟩ := Option.bind_eq_some_iff.mp h
  obtain ⟨w, hw, h⟩ := Option.bind_eq_some_iff.mp h
  cases h
  have hp : ups.mapM assignText = some parts := hp
  have hlen : ups.length ≤ (joinWith ", ".toList parts).length + 1 :=
    mapM_length hp ▸ length_le_joinWith _ (by decide) parts
  have e1 : "UPDATE ".toList ++ t ++ " SET ".toList ++ joinWith ", ".toList parts ++ w
      = "UPDATE ".toList ++ (t ++ (" SET ".toList ++ (joinWith ", ".toList parts ++ w))) := by simp
  rw [e1]
  simp only [readUpdateText, strip_append,
    spanP_append isIdChar t (" SET ".toList ++ (joinWith ", ".toList parts ++ w)) ht (stops_space _)]
  rcases optWhere_cases cond w hw with ⟨rfl, rfl⟩ | ⟨e, x, rfl, hx, rfl⟩
  · have := readAssignsText_fmt ups parts ((joinWith ", ".toList parts ++ []).length + 1) [] none hne hid hp
      (by simp only [List.length_append]; omega) Tail.none
    simp only [this]
  · have := readAssignsText_fmt ups parts ((joinWith ", ".toList parts ++ (" WHERE ".toList ++ x)).length + 1)
      (" WHERE ".toList ++ x) (some x) hne hid hp (by simp only [List.length_append]; omega) (Tail.wh x)
    simp only [this, readText_fmt e hg x hx, Option.map_some]

/-! ### INSERT -/

theorem strip_comma_rp (x : List Char) : strip ", ".toList (')' :: x) = none :=
  strip_cons_ne (p := ',') (c := ')') [' '] x (by decide)
theorem strip_rp (x : List Char) : strip [')'] (')' :: x) = some x := strip_append [')'] x
theorem strip_lp (x : List Char) : strip ['('] ('(' :: x) = some x := strip_append ['('] x
theorem strip_lprp (x : List Char) : strip ['(', ')'] ('(' :: ')' :: x) = some x := strip_append ['(', ')'] x

theorem readValsText_fmt (vs : List Value) :
    ∀ (parts : List (List Char)) (fuel : Nat) (x : List Char),
      vs ≠ [] → vs.mapM Value.display = some parts → vs.length ≤ fuel →
      readValsText fuel (joinWith ", ".toList parts ++ ')' :: x) = some (vs, x) := by
  induction vs with
  | nil => intro _ _ _ h; exact absurd rfl h
  | cons v rest ih =>
    intro parts fuel x _ hp hf
    obtain ⟨sv, ps, hsv, hrest, rfl⟩ := mapM_cons_eq_some.mp hp
    cases fuel with
    | zero => simp at hf
    | succ fuel =>
      cases rest with
      | nil =>
        cases mapM_nil_eq_some.mp hrest
        rw [show joinWith ", ".toList [sv] = sv from rfl, readValsText]
        simp only [readLit_display v sv hsv (')' :: x) (stops_cons _ (by decide)), strip_comma_rp, strip_rp]
      | cons b rest' =>
        obtain ⟨p2, ps', -, -, rfl⟩ := mapM_cons_eq_some.mp hrest
        have e1 : joinWith ", ".toList (sv :: p2 :: ps') ++ ')' :: x
            = sv ++ (", ".toList ++ (joinWith ", ".toList (p2 :: ps') ++ ')' :: x)) := by
          simp [joinWith_cons_cons]
        have hrec := ih (p2 :: ps') fuel x (List.cons_ne_nil _ _) hrest (Nat.le_of_succ_le_succ hf)
        rw [e1, readValsText]
        simp only [strip_append, hrec, Option.map_some,
          readLit_display v sv hsv (", ".toList ++ (joinWith ", ".toList (p2 :: ps') ++ ')' :: x)) (stops_cons _ (by decide))]

theorem fmtValues_eq (vs : List Value) (s : List Char) (h : fmtValues vs = some s) :
    ∃ parts, vs.mapM Value.display = some parts ∧ s = '(' :: (joinWith ", ".toList parts ++ [')']) := by
  obtain ⟨parts, hp, h⟩ := Option.bind_eq_some_iff.mp h
  cases h
  exact ⟨parts, hp, by simp⟩

theorem display_head (v : Value) (s : List Char) (h : v.display = some s) :
    ∃ c r, s = c :: r ∧ c ≠ ')' := by
  rcases display_shape h with ⟨t, rfl, -⟩ | ⟨c, w, rfl, -, hall⟩
  · exact ⟨'"', _, rfl, by decide⟩
  · refine ⟨c, w, rfl, fun e => ?_⟩
    have := hall c List.mem_cons_self
    rw [e] at this
    exact absurd this (by decide)

theorem readRowText_fmt (vs : List Value) (s : List Char) (h : fmtValues vs = some s) (x : List Char) :
    readRowText (s ++ x) = some (vs, x) := by
  obtain ⟨parts, hp, rfl⟩ := fmtValues_eq vs s h
  cases vs with
  | nil =>
    cases mapM_nil_eq_some.mp hp
    show readRowText ('(' :: ')' :: x) = _
    simp only [readRowText, strip_lprp]
  | cons v rest =>
    obtain ⟨sv, ps, hsv, -, rfl⟩ := mapM_cons_eq_some.mp hp
    have hlen : (v :: rest).length ≤ (joinWith ", ".toList (sv :: ps)).length + 1 :=
      mapM_length hp ▸ length_le_joinWith _ (by decide) _
    have hvals := readValsText_fmt (v :: rest) (sv :: ps)
      ((joinWith ", ".toList (sv :: ps) ++ ')' :: x).length + 1) x (List.cons_ne_nil _ _) hp
      (by simp only [List.length_append]; omega)
    -- the first printed value starts the text after `(`, and it does not start with `)`
    obtain ⟨c, r, rfl, hc⟩ := display_head v sv hsv
    obtain ⟨r', hj⟩ : ∃ r', joinWith ", ".toList ((c :: r) :: ps) = c :: r' := by
      cases ps with
      | nil => exact ⟨r, rfl⟩
      | cons a b => exact ⟨_, rfl⟩
    have e1 : '(' :: (joinWith ", ".toList ((c :: r) :: ps) ++ [')']) ++ x
        = '(' :: (joinWith ", ".toList ((c :: r) :: ps) ++ ')' :: x) := by simp
    rw [e1]
    have hs1 : strip ['(', ')'] ('(' :: (joinWith ", ".toList ((c :: r) :: ps) ++ ')' :: x)) = none := by
      rw [hj, strip, if_pos rfl]
      exact strip_cons_ne _ _ (fun e => hc e.symm)
    simp only [readRowText, hs1, strip_lp, hvals]

theorem readRowsText_fmt (rows : List (List Value)) :
    ∀ (parts : List (List Char)) (fuel : Nat),
      rows ≠ [] → rows.mapM fmtValues = some parts → rows.length ≤ fuel →
      readRowsText fuel (joinWith ", ".toList parts) = some rows := by
  induction rows with
  | nil => intro _ _ h; exact absurd rfl h
  | cons row rest ih =>
    intro parts fuel _ hp hf
    obtain ⟨sr, ps, hd, hrest, rfl⟩ := mapM_cons_eq_some.mp hp
    cases fuel with
    | zero => simp at hf
    | succ fuel =>
      cases rest with
      | nil =>
        cases mapM_nil_eq_some.mp hrest
        have hrow := readRowText_fmt row sr hd []
        simp only [List.append_nil] at hrow
        simp only [joinWith, readRowsText, hrow, strip_comma_nil]
      | cons b rest' =>
        obtain ⟨p2, ps', -, -, rfl⟩ := mapM_cons_eq_some.mp hrest
        have hrow := readRowText_fmt row sr hd (", ".toList ++ joinWith ", ".toList (p2 :: ps'))
        have hrec := ih (p2 :: ps') fuel (List.cons_ne_nil _ _) hrest (Nat.le_of_succ_le_succ hf)
        rw [joinWith_cons_cons, List.append_assoc, readRowsText]
        simp only [hrow, strip_append, hrec, Option.map_some]

theorem fmtValues_length (vs : List Value) (s : List Char) (h : fmtValues vs = some s) : 1 ≤ s.length := by
  obtain ⟨_, _, rfl⟩ := fmtValues_eq vs s h
  simp

/-- **reading a printed INSERT gives the statement back**: the table and every row of values -/
theorem readInsertText_fmt (t : List Char) (rows : List (List Value)) (ht : IdChars t)
    (s : List Char) (h : fmtInsert t rows = some s) : readInsertText s = some (t, rows) := by
  obtain ⟨parts, hp, h⟩ := Option.bind_eq_some_iff.mp h
  cases h
  cases rows with
  | nil =>
    have hsp := spanP_append isIdChar t [] ht (stops_nil _)
    rw [List.append_nil] at hsp
    have hnone : strip " VALUES ".toList [] = none := rfl
    simp only [List.isEmpty_nil, if_true, List.append_nil, readInsertText, strip_append, hsp, hnone]
  | cons r rest =>
    have hlen : (r :: rest).length ≤ (joinWith ", ".toList parts).length + 1 :=
      mapM_length hp ▸ length_le_joinWith _ (by decide) parts
    have hrows := readRowsText_fmt (r :: rest) parts ((joinWith ", ".toList parts).length + 1)
      (List.cons_ne_nil _ _) hp hlen
    have e1 : "INSERT INTO ".toList ++ t ++ (" VALUES ".toList ++ joinWith ", ".toList parts)
        = "INSERT INTO ".toList ++ (t ++ (" VALUES ".toList ++ joinWith ", ".toList parts)) := by simp
    simp only [List.isEmpty_cons, Bool.false_eq_true, if_false]
    rw [e1]
    simp only [readInsertText, strip_append, hrows, Option.map_some,
      spanP_append isIdChar t (" VALUES ".toList ++ joinWith ", ".toList parts) ht (stops_space _)]

end MsiProofs.StmtLex
