import MsiProofs.Lemmas.ExprRead
/-
C19 for the statements: `UPDATE`, `DELETE` and `INSERT` as token sequences, and a reader that
recovers the statement from its tokens.  The tokens are the words and signs of the printed
statement in order (`QueryFmt.fmtUpdate` / `fmtDelete` / `fmtInsert` write exactly these, separated
as the text shows); the condition after `WHERE` is the token form of the expression printer
(`toks`, proved equal to the printed expression: `render_toks`) and is read by the expression
reader (`readExpr`).  Theorems: reading the tokens of a statement gives back the statement - every
assignment with its value in order (also when a column is assigned twice), every row of values,
the condition as the same tree.
-/
namespace MsiProofs.StmtRead
open MsiModel

inductive Kw
  | update | set | delete | from | insert | into | values | where_
  deriving DecidableEq, Repr

/-- a token of a printed statement -/
inductive QTok
  | kw (k : Kw)
  | name (n : List Char)      -- a table or column name
  | comma | assign | lp | rp
  | val (v : Value)           -- a literal value
  | ex (t : Tok)              -- a token of the condition
  deriving DecidableEq, Repr

def whereToks : Option Ast → List QTok
  | none => []
  | some e => .kw .where_ :: (toks e 0).map .ex

/-- the tokens of `impl Display for Delete` -/
def deleteToks (t : List Char) (cond : Option Ast) : List QTok :=
  [.kw .delete, .kw .from, .name t] ++ whereToks cond

def assignToks : List (List Char × Value) → List QTok
  | [] => []
  | [(c, v)] => [.name c, .assign, .val v]
  | (c, v) :: rest => .name c :: .assign :: .val v :: .comma :: assignToks rest

/-- the tokens of `impl Display for Update` -/
def updateToks (t : List Char) (ups : List (List Char × Value)) (cond : Option Ast) : List QTok :=
  [.kw .update, .name t, .kw .set] ++ assignToks ups ++ whereToks cond

def valuesToks : List Value → List QTok
  | [] => []
  | [v] => [.val v]
  | v :: rest => .val v :: .comma :: valuesToks rest

def rowsToks : List (List Value) → List QTok
  | [] => []
  | [r] => .lp :: valuesToks r ++ [.rp]
  | r :: rest => .lp :: valuesToks r ++ .rp :: .comma :: rowsToks rest

/-- the tokens of `impl Display for Insert` -/
def insertToks (t : List Char) (rows : List (List Value)) : List QTok :=
  [.kw .insert, .kw .into, .name t] ++ (if rows.isEmpty then [] else .kw .values :: rowsToks rows)

def unEx : List QTok → Option (List Tok)
  | [] => some []
  | .ex t :: r => (unEx r).map (t :: ·)
  | _ => none

/-- `WHERE <expression>` to the end, or nothing -/
def readWhere : List QTok → Option (Option Ast)
  | [] => some none
  | .kw .where_ :: r =>
    match unEx r with
    | some ts => (readExpr ts).map some
    | none => none
  | _ => none

def readDelete : List QTok → Option (List Char × Option Ast)
  | .kw .delete :: .kw .from :: .name t :: r => (readWhere r).map fun c => (t, c)
  | _ => none

/-- assignments `c = v, c = v, ...`; returns them and what follows -/
def readAssigns : Nat → List QTok → Option (List (List Char × Value) × List QTok)
  | 0, _ => none
  | f + 1, .name c :: .assign :: .val v :: .comma :: r =>
    (readAssigns f r).map fun (as, r') => ((c, v) :: as, r')
  | _ + 1, .name c :: .assign :: .val v :: r => some ([(c, v)], r)
  | _ + 1, _ => none

def readUpdate : List QTok → Option (List Char × List (List Char × Value) × Option Ast)
  | .kw .update :: .name t :: .kw .set :: r =>
    match readAssigns (r.length + 1) r with
    | some (as, r') => (readWhere r').map fun c => (t, as, c)
    | none => none
  | _ => none

def readValues : Nat → List QTok → Option (List Value × List QTok)
  | 0, _ => none
  | f + 1, .val v :: .comma :: r => (readValues f r).map fun (vs, r') => (v :: vs, r')
  | _ + 1, .val v :: .rp :: r => some ([v], r)
  | _ + 1, .rp :: r => some ([], r)
  | _ + 1, _ => none

def readRows : Nat → List QTok → Option (List (List Value))
  | 0, _ => none
  | f + 1, .lp :: r =>
    match readValues (r.length + 1) r with
    | some (vs, .comma :: r') => (readRows f r').map (vs :: ·)
    | some (vs, []) => some [vs]
    | _ => none
  | _ + 1, _ => none

def readInsert : List QTok → Option (List Char × List (List Value))
  | [.kw .insert, .kw .into, .name t] => some (t, [])
  | .kw .insert :: .kw .into :: .name t :: .kw .values :: r => (readRows (r.length + 1) r).map fun rows => (t, rows)
  | _ => none

theorem unEx_map (ts : List Tok) : unEx (ts.map .ex) = some ts := by
  induction ts with
  | nil => rfl
  | cons t r ih => simp [unEx, ih]

theorem readWhere_toks (cond : Option Ast) : readWhere (whereToks cond) = some cond := by
  cases cond with
  | none => rfl
  | some e => simp [whereToks, readWhere, unEx_map, MsiProofs.ExprRead.readExpr_toks]

/-- **`DELETE`: the tokens read back as the statement** -/
theorem readDelete_toks (t : List Char) (cond : Option Ast) : readDelete (deleteToks t cond) = some (t, cond) := by
  simp [deleteToks, readDelete, readWhere_toks]

theorem whereToks_head (cond : Option Ast) : whereToks cond = [] ∨ ∃ r, whereToks cond = .kw .where_ :: r := by
  cases cond with
  | none => exact Or.inl rfl
  | some e => exact Or.inr ⟨_, rfl⟩

theorem ra_comma (f : Nat) (c : List Char) (v : Value) (r : List QTok) :
    readAssigns (f + 1) (.name c :: .assign :: .val v :: .comma :: r) =
      (readAssigns f r).map fun (as, r') => ((c, v) :: as, r') := rfl
theorem ra_nil (f : Nat) (c : List Char) (v : Value) :
    readAssigns (f + 1) [.name c, .assign, .val v] = some ([(c, v)], []) := rfl
theorem ra_where (f : Nat) (c : List Char) (v : Value) (r : List QTok) :
    readAssigns (f + 1) (.name c :: .assign :: .val v :: .kw .where_ :: r) = some ([(c, v)], .kw .where_ :: r) := rfl

theorem readAssigns_toks (ups : List (List Char × Value)) (hne : ups ≠ []) : ∀ (f : Nat) (rest : List QTok),
    ups.length ≤ f → (rest = [] ∨ ∃ r, rest = .kw .where_ :: r) →
    readAssigns f (assignToks ups ++ rest) = some (ups, rest) := by
  induction ups with
  | nil => exact absurd rfl hne
  | cons a tl ih =>
    intro f rest hf hrest
    obtain ⟨c, v⟩ := a
    cases f with
    | zero => simp at hf
    | succ f =>
      cases tl with
      | nil =>
        rcases hrest with rfl | ⟨r, rfl⟩
        · exact ra_nil f c v
        · exact ra_where f c v r
      | cons b tl' =>
        have := ih (by simp) f rest (by simp at hf ⊢; omega) hrest
        show readAssigns (f + 1) (.name c :: .assign :: .val v :: .comma :: (assignToks (b :: tl') ++ rest)) = _
        rw [ra_comma, this]; rfl

theorem assignToks_length (ups : List (List Char × Value)) : ups.length ≤ (assignToks ups).length + 1 := by
  induction ups with
  | nil => simp
  | cons a tl ih =>
    obtain ⟨c, v⟩ := a
    cases tl with
    | nil => simp [assignToks]
    | cons b tl' => simp only [assignToks, List.length_cons] at ih ⊢; omega

/-- **`UPDATE`: the tokens read back as the statement** - table, every assignment with its value
in order (a column assigned twice stays assigned twice), and the condition as the same tree -/
theorem readUpdate_toks (t : List Char) (ups : List (List Char × Value)) (hne : ups ≠ []) (cond : Option Ast) :
    readUpdate (updateToks t ups cond) = some (t, ups, cond) := by
  simp only [updateToks, List.cons_append, List.nil_append, readUpdate, List.append_assoc]
  rw [readAssigns_toks ups hne _ _ (by
    have := assignToks_length ups
    simp only [List.length_append]; omega) (whereToks_head cond)]
  simp [readWhere_toks]

theorem rv_comma (f : Nat) (v : Value) (r : List QTok) :
    readValues (f + 1) (.val v :: .comma :: r) = (readValues f r).map fun (vs, r') => (v :: vs, r') := rfl
theorem rv_last (f : Nat) (v : Value) (r : List QTok) : readValues (f + 1) (.val v :: .rp :: r) = some ([v], r) := rfl
theorem rv_none (f : Nat) (r : List QTok) : readValues (f + 1) (.rp :: r) = some ([], r) := rfl

theorem readValues_toks (vs : List Value) : ∀ (f : Nat) (rest : List QTok), vs.length + 1 ≤ f →
    readValues f (valuesToks vs ++ .rp :: rest) = some (vs, rest) := by
  induction vs with
  | nil =>
    intro f rest hf
    cases f with
    | zero => simp at hf
    | succ f => exact rv_none f rest
  | cons v tl ih =>
    intro f rest hf
    cases f with
    | zero => simp at hf
    | succ f =>
      cases tl with
      | nil => exact rv_last f v rest
      | cons w tl' =>
        have := ih f rest (by simp at hf ⊢; omega)
        show readValues (f + 1) (.val v :: .comma :: (valuesToks (w :: tl') ++ .rp :: rest)) = _
        rw [rv_comma, this]; rfl

theorem valuesToks_length (vs : List Value) : vs.length ≤ (valuesToks vs).length := by
  induction vs with
  | nil => simp
  | cons v tl ih =>
    cases tl with
    | nil => simp [valuesToks]
    | cons w tl' => simp only [valuesToks, List.length_cons] at ih ⊢; omega

theorem rr_step (f : Nat) (r : List QTok) :
    readRows (f + 1) (.lp :: r) =
      (match readValues (r.length + 1) r with
       | some (vs, .comma :: r') => (readRows f r').map (vs :: ·)
       | some (vs, []) => some [vs]
       | _ => none) := rfl

theorem readRows_toks (rows : List (List Value)) (hne : rows ≠ []) : ∀ (f : Nat), rows.length ≤ f →
    readRows f (rowsToks rows) = some rows := by
  induction rows with
  | nil => exact absurd rfl hne
  | cons r tl ih =>
    intro f hf
    cases f with
    | zero => simp at hf
    | succ f =>
      cases tl with
      | nil =>
        show readRows (f + 1) (.lp :: (valuesToks r ++ [.rp])) = _
        rw [rr_step, readValues_toks r _ [] (by
          have := valuesToks_length r
          simp only [List.length_append, List.length_cons, List.length_nil]; omega)]
      | cons r2 tl' =>
        show readRows (f + 1) (.lp :: (valuesToks r ++ .rp :: .comma :: rowsToks (r2 :: tl'))) = _
        rw [rr_step, readValues_toks r _ _ (by
          have := valuesToks_length r
          simp only [List.length_append, List.length_cons]; omega)]
        simp only
        rw [ih (by simp) f (by simp at hf ⊢; omega)]; rfl

theorem rowsToks_length (rows : List (List Value)) : rows.length ≤ (rowsToks rows).length := by
  induction rows with
  | nil => simp
  | cons r tl ih =>
    cases tl with
    | nil => simp [rowsToks]
    | cons r2 tl' => simp only [rowsToks, List.length_cons, List.length_append] at ih ⊢; omega

/-- **`INSERT`: the tokens read back as the statement** - every row, every value, in order -/
theorem readInsert_toks (t : List Char) (rows : List (List Value)) : readInsert (insertToks t rows) = some (t, rows) := by
  cases rows with
  | nil => rfl
  | cons r tl =>
    simp only [insertToks, List.isEmpty_cons, Bool.false_eq_true, if_false, List.cons_append, List.nil_append, readInsert]
    rw [readRows_toks (r :: tl) (by simp) _ (by have := rowsToks_length (r :: tl); omega)]
    rfl

end MsiProofs.StmtRead
