import MsiProofs.Lemmas.Lifecycle2
/-
The stream listing (property C11): `streams()` lists exactly the live user stream names, as
given.  For a container whose entry names are the ones the library writes — the special streams,
table streams `encode t true`, user streams `encode n false` of valid names — and which holds no
two entries with the same (cfb) key:

* writing a new name appends it to the listing, overwriting changes nothing;
* removing a name removes exactly that name;
* writing or removing a table stream, the string pool streams or the summary stream changes
  nothing in the listing — so no statement, `create_table`, `drop_table` or save does;
* the listed names are pairwise different, and a name is listed exactly when the stream exists.
-/
namespace MsiProofs.StreamsListing
open MsiModel MsiModel.Bytes MsiModel.Pkg MsiModel.StreamName MsiProofs.SaveOpen MsiProofs.StreamsMap
open MsiProofs.Synced

/-- what `Streams::next` yields for one entry of the container -/
def lists (e : Entry) : Option (List Char) :=
  if specialNames.contains e.name then none
  else
    let (n, isTable) := decode e.name
    if isTable then none else some n

theorem streams_eq (s : Pkg) : streams s = s.cont.filterMap lists := rfl

/-- the names a container written by the library holds: a special stream, a table stream of a valid
table name, a user stream of a valid name -/
def Canon (nm : List Char) : Prop :=
  nm ∈ specialNames ∨ (∃ tn, isValid tn true = true ∧ nm = encode tn true) ∨
  (∃ m, isValid m false = true ∧ nm = encode m false)

structure CanonC (c : List Entry) : Prop where
  names : ∀ e ∈ c, Canon e.name
  keys : (c.map fun e => key e.name).Nodup

theorem lists_special (e : Entry) (h : e.name ∈ specialNames) : lists e = none := by
  unfold lists
  rw [if_pos (List.contains_iff_mem.mpr h)]

theorem lists_table (d : Bytes) (tn : List Char) : lists ⟨encode tn true, d⟩ = none := by
  unfold lists
  by_cases hs : specialNames.contains (encode tn true) = true
  · rw [if_pos hs]
  · rw [if_neg hs]
    have : decode (encode tn true) = (decodeAux (encodeAux tn), true) := by
      unfold encode decode
      simp
    simp only [this, if_true]

theorem lists_user (d : Bytes) (m : List Char) (h : isValid m false = true) : lists ⟨encode m false, d⟩ = some m := by
  unfold lists
  have hsep := MsiProofs.C11.separated m h
  have hns : ¬ (specialNames.contains (encode m false) = true) := fun hc => hsep.1 (List.contains_iff_mem.mp hc)
  rw [if_neg hns]
  simp only [MsiProofs.C11.decode_encode m h, Bool.false_eq_true, if_false]

/-- upper-casing a packable character gives a packable character: a small letter becomes the
capital 32 below, the others stay -/
theorem upper_packable {c : Char} (h : (toB64 c).isSome = true) : (toB64 (Cont.upper c)).isSome = true := by
  unfold Cont.upper
  by_cases hc : 97 ≤ c.toNat ∧ c.toNat ≤ 122
  · have e : toB64 (Char.ofNat (c.toNat - 32)) = some (10 + (c.toNat - 32) - 65) := by
      unfold toB64
      dsimp only
      rw [MsiProofs.C11.toNat_ofNat_of_lt _ (by omega), if_neg (by omega), if_pos (by omega)]
    rw [if_pos hc, e]; rfl
  · rw [if_neg hc]; exact h

/-- a user stream's key is not the key of a special stream: every special name has a packable
character, an encoded user name has none -/
theorem user_ne_special (m : List Char) (h : isValid m false = true) (sp : List Char) (hsp : sp ∈ specialNames) :
    key (encode m false) ≠ key sp := by
  intro hk
  have h2 := (Prod.mk.inj hk).2
  rw [map_upper_unpackable _ (user_encoded_unpackable m)] at h2
  obtain ⟨c, hc, hpk⟩ := MsiProofs.C11.special_has_packable sp hsp
  have := upper_packable hpk
  rw [user_encoded_unpackable m _ (h2 ▸ List.mem_map_of_mem hc)] at this
  cases this

theorem entry_kind (e : Entry) (h : Canon e.name) :
    (lists e = none ∧ ∀ n, isValid n false = true → key e.name ≠ key (encode n false)) ∨
    (∃ m, isValid m false = true ∧ e.name = encode m false ∧ lists e = some m) := by
  rcases h with hsp | ⟨tn, -, heq⟩ | ⟨m, hv, heq⟩
  · exact Or.inl ⟨lists_special e hsp, fun n hn hk => user_ne_special n hn _ hsp hk.symm⟩
  · refine Or.inl ⟨?_, fun n hn hk => ?_⟩
    · have := lists_table e.data tn
      rw [← heq] at this
      exact this
    · rw [heq] at hk
      exact MsiProofs.Synced.user_key_ne_table_key n tn hn hk.symm
  · refine Or.inr ⟨m, hv, heq, ?_⟩
    have := lists_user e.data m hv
    rw [← heq] at this
    exact this

theorem name_of_listed {e : Entry} (h : Canon e.name) {m : List Char} (hm : lists e = some m) :
    isValid m false = true ∧ e.name = encode m false := by
  rcases entry_kind e h with ⟨hl, -⟩ | ⟨m', hv, heq, hl⟩ <;> rw [hl] at hm <;> cases hm
  exact ⟨hv, heq⟩

theorem mem_listing (c : List Entry) (hc : CanonC c) (n : List Char) :
    n ∈ c.filterMap lists ↔ isValid n false = true ∧ ∃ e ∈ c, e.name = encode n false := by
  simp only [List.mem_filterMap]
  constructor
  · rintro ⟨e, he, hl⟩
    exact ⟨(name_of_listed (hc.names e he) hl).1, e, he, (name_of_listed (hc.names e he) hl).2⟩
  · rintro ⟨hv, e, he, hname⟩
    refine ⟨e, he, ?_⟩
    have := lists_user e.data n hv
    rw [← hname] at this
    exact this

theorem listed_iff_exists (c : List Entry) (hc : CanonC c) (n : List Char) (hv : isValid n false = true) :
    n ∈ c.filterMap lists ↔ Cont.exists_ c (encode n false) = true := by
  rw [mem_listing c hc n]
  unfold Cont.exists_ Cont.find
  rw [List.find?_isSome]
  constructor
  · rintro ⟨-, e, he, hname⟩
    exact ⟨e, he, by rw [hname]; exact nameEq_refl _⟩
  · rintro ⟨e, he, hk⟩
    refine ⟨hv, e, he, ?_⟩
    have hkey := (nameEq_iff _ _).mp hk
    rcases entry_kind e (hc.names e he) with ⟨-, hne⟩ | ⟨m, hmv, heq, -⟩
    · exact absurd hkey (hne n hv)
    · rw [heq] at hkey ⊢
      rw [user_stream_injective m n hmv hv hkey]

/-- **the listed names are pairwise different**: entries listed under one name would share a key -/
theorem listing_nodup (c : List Entry) (hc : CanonC c) : (c.filterMap lists).Nodup := by
  rw [List.Nodup, List.pairwise_filterMap]
  refine (List.pairwise_map.mp hc.keys).imp_of_mem fun {a a'} ha ha' hk b hb b' hb' e => hk ?_
  rw [(name_of_listed (hc.names a ha) hb).2, (name_of_listed (hc.names a' ha') hb').2, e]

theorem filterMap_put_existing (c : List Entry) (n : List Char) (d : Bytes) :
    (c.map fun e => if Cont.nameEq e.name n then { e with data := d } else e).filterMap lists = c.filterMap lists := by
  rw [List.filterMap_map]
  congr 1
  funext e
  simp only [Function.comp]
  split <;> rfl

/-- **writing a stream**: a new name is appended to the listing, an existing one changes nothing -/
theorem listing_put_user (c : List Entry) (hc : CanonC c) (n : List Char) (hv : isValid n false = true) (d : Bytes) :
    (Cont.put c (encode n false) d).filterMap lists =
      if n ∈ c.filterMap lists then c.filterMap lists else c.filterMap lists ++ [n] := by
  unfold Cont.put
  by_cases hex : Cont.exists_ c (encode n false) = true
  · rw [if_pos hex, if_pos ((listed_iff_exists c hc n hv).mpr hex)]
    exact filterMap_put_existing c _ d
  · rw [if_neg hex, if_neg (fun h => hex ((listed_iff_exists c hc n hv).mp h))]
    rw [List.filterMap_append]
    simp [lists_user d n hv]

theorem listing_put_other (c : List Entry) (nm : List Char) (d : Bytes) (h : lists ⟨nm, d⟩ = none) :
    (Cont.put c nm d).filterMap lists = c.filterMap lists := by
  unfold Cont.put
  split
  · exact filterMap_put_existing c _ d
  · rw [List.filterMap_append]; simp [h]

theorem keys_put (c : List Entry) (hk : (c.map fun e => key e.name).Nodup) (nm : List Char) (d : Bytes) :
    ((Cont.put c nm d).map fun e => key e.name).Nodup := by
  unfold Cont.put
  split
  · have : ((c.map fun e => if Cont.nameEq e.name nm then { e with data := d } else e).map fun e => key e.name) =
        c.map fun e => key e.name := by
      rw [List.map_map]
      apply List.map_congr_left
      intro e _
      simp only [Function.comp]
      split <;> rfl
    rw [this]; exact hk
  · rename_i hne
    rw [List.map_append, List.nodup_append]
    refine ⟨hk, by simp, ?_⟩
    intro a ha b hb
    simp only [List.map_cons, List.map_nil, List.mem_singleton] at hb
    subst hb
    obtain ⟨e, he, rfl⟩ := List.mem_map.mp ha
    intro hkey
    apply hne
    unfold Cont.exists_ Cont.find
    rw [List.find?_isSome]
    exact ⟨e, he, (nameEq_iff _ _).mpr hkey⟩

theorem canon_put (c : List Entry) (hc : CanonC c) (nm : List Char) (hnm : Canon nm) (d : Bytes) :
    CanonC (Cont.put c nm d) := by
  refine ⟨?_, keys_put c hc.keys nm d⟩
  intro e he
  unfold Cont.put at he
  split at he
  · obtain ⟨e0, he0, rfl⟩ := List.mem_map.mp he
    split
    · exact hc.names e0 he0
    · exact hc.names e0 he0
  · rw [List.mem_append] at he
    rcases he with he | he
    · exact hc.names e he
    · simp only [List.mem_singleton] at he; subst he; exact hnm

theorem canon_remove (c : List Entry) (hc : CanonC c) (nm : List Char) : CanonC (Cont.remove c nm) := by
  unfold Cont.remove
  refine ⟨fun e he => hc.names e (List.mem_filter.mp he).1, ?_⟩
  exact hc.keys.sublist ((List.filter_sublist).map _)

theorem filterMap_filter_of {α β} (f : α → Option β) (p : α → Bool) (q : β → Bool) :
    ∀ l : List α, (∀ a ∈ l, ∀ b, f a = some b → q b = p a) → (l.filter p).filterMap f = (l.filterMap f).filter q
  | [], _ => rfl
  | a :: l, h => by
    have ih := filterMap_filter_of f p q l fun x hx => h x (List.mem_cons_of_mem _ hx)
    cases hf : f a with
    | none =>
      rw [List.filterMap_cons_none hf, ← ih, List.filter_cons]
      cases p a
      · rfl
      · exact List.filterMap_cons_none hf
    | some b =>
      rw [List.filterMap_cons_some hf, List.filter_cons, List.filter_cons, h a List.mem_cons_self b hf, ← ih]
      cases p a
      · rfl
      · exact List.filterMap_cons_some hf

/-- **removing a user stream removes exactly its name from the listing** -/
theorem listing_remove_user (c : List Entry) (hc : CanonC c) (n : List Char) (hv : isValid n false = true) :
    (Cont.remove c (encode n false)).filterMap lists = (c.filterMap lists).filter (· ≠ n) := by
  refine filterMap_filter_of lists _ _ c fun e he m hm => ?_
  -- a listed entry is the user entry of its name: it goes exactly when that name is `n`
  obtain ⟨hmv, heq⟩ := name_of_listed (hc.names e he) hm
  rw [heq]
  by_cases hmn : m = n
  · subst hmn
    rw [nameEq_refl]
    exact decide_eq_false (not_not_intro rfl)
  · rw [(nameEq_false_iff _ _).mpr fun h => hmn (user_stream_injective m n hmv hv h)]
    exact decide_eq_true hmn

theorem listing_remove_other (c : List Entry) (hc : CanonC c) (nm : List Char)
    (hnm : nm ∈ specialNames ∨ ∃ tn, nm = encode tn true) :
    (Cont.remove c nm).filterMap lists = c.filterMap lists := by
  refine (filterMap_filter_of lists _ (fun _ => true) c fun e he m hm => ?_).trans (List.filter_eq_self.mpr fun _ _ => rfl)
  -- a listed entry is a user entry, and those stay
  obtain ⟨hmv, heq⟩ := name_of_listed (hc.names e he) hm
  rw [heq, (nameEq_false_iff _ _).mpr]
  · rfl
  · rcases hnm with hsp | ⟨tn, rfl⟩
    · exact user_ne_special m hmv _ hsp
    · exact MsiProofs.Synced.user_key_ne_table_key m tn hmv

/-! ### the package API -/

/-- **`write_stream`**: an accepted call lists the name (once), a refused one changes nothing -/
theorem streams_write (s : Pkg) (hc : CanonC s.cont) (n : List Char) (d : Bytes) :
    streams (writeStream s n d).1 =
      (if isValid n false = true ∧ n ∉ streams s then streams s ++ [n] else streams s) ∧
    CanonC (writeStream s n d).1.cont := by
  unfold writeStream
  cases hv : isValid n false with
  | false => exact ⟨(if_neg fun h => Bool.false_ne_true h.1).symm, hc⟩
  | true =>
    refine ⟨?_, canon_put _ hc _ (Or.inr (Or.inr ⟨n, hv, rfl⟩)) d⟩
    show (Cont.put s.cont (encode n false) d).filterMap lists = _
    rw [listing_put_user s.cont hc n hv d, streams_eq]
    by_cases hm : n ∈ s.cont.filterMap lists
    · rw [if_pos hm, if_neg fun h => h.2 hm]
    · rw [if_neg hm, if_pos ⟨rfl, hm⟩]

/-- **`remove_stream`**: an accepted call removes exactly that name from the listing -/
theorem streams_remove (s : Pkg) (hc : CanonC s.cont) (n : List Char) :
    streams (removeStream s n).1 =
      (if isValid n false = true then (streams s).filter (· ≠ n) else streams s) ∧
    CanonC (removeStream s n).1.cont := by
  unfold removeStream
  cases hv : isValid n false with
  | false => exact ⟨(if_neg Bool.false_ne_true).symm, hc⟩
  | true =>
    rw [if_pos rfl]
    dsimp only
    cases hex : Cont.exists_ s.cont (encode n false) with
    | true => exact ⟨listing_remove_user s.cont hc n hv, canon_remove _ hc _⟩
    | false =>
      -- nothing to remove: the name is not listed
      refine ⟨(List.filter_eq_self.mpr fun a ha => decide_eq_true (show a ≠ n from fun e => ?_)).symm, hc⟩
      rw [(listed_iff_exists s.cont hc n hv).mp (e ▸ ha)] at hex
      cases hex

theorem streams_storeRows (s : Pkg) (hc : CanonC s.cont) (t : Table) (hv : isValid t.name true = true)
    (rows : List (List Cell)) :
    streams (storeRows s t rows).1 = streams s ∧ CanonC (storeRows s t rows).1.cont := by
  unfold storeRows
  cases t.writeRows rows with
  | ok bs =>
    exact ⟨listing_put_other s.cont _ bs (lists_table bs t.name), canon_put _ hc _ (Or.inr (Or.inl ⟨t.name, hv, rfl⟩)) bs⟩
  | err k =>
    exact ⟨listing_put_other s.cont _ [] (lists_table [] t.name), canon_put _ hc _ (Or.inr (Or.inl ⟨t.name, hv, rfl⟩)) []⟩
  | panic w => exact ⟨rfl, hc⟩



open MsiProofs.Lifecycle

/-! ### every call of the API -/

/-- what the listing needs of a package: a canonical container and valid table names -/
structure Listable (s : Pkg) : Prop where
  canon : CanonC s.cont
  tables : ∀ t ∈ s.tables, isValid t.name true = true

theorem listable_setFinisher (s : Pkg) (b : Bool) (h : Listable s) : Listable { s with finisher := b } := ⟨h.canon, h.tables⟩

theorem shape_streams (s s' : Pkg) (tn : List Char) (hs : DmlShape s s' tn) (h : Listable s) :
    streams s' = streams s ∧ Listable s' := by
  rcases hs with rfl | ⟨t, pool', rows, hf, -, rfl⟩
  · exact ⟨rfl, h⟩
  · have ht := findTable_mem hf
    have := streams_storeRows { s with pool := pool' } h.canon t (h.tables t ht) rows
    refine ⟨this.1, this.2, ?_⟩
    unfold storeRows
    cases t.writeRows rows <;> exact h.tables

theorem op_streams (s : Pkg) (h : Listable s) (op : MsiProofs.GlobalInvUpd.Op) :
    streams (op.run { s with finisher := true }) = streams s ∧ Listable (op.run { s with finisher := true }) :=
  shape_streams { s with finisher := true } _ _ (MsiProofs.FullHistory.op_shape _ op) (listable_setFinisher s true h)

theorem createTable_streams (s : Pkg) (h : Listable s) (name : List Char) (cols : List Column) :
    streams (createTable s name cols).1 = streams s ∧ Listable (createTable s name cols).1 := by
  refine MsiProofs.Exec.createTable_keeps_named (P := fun s' => streams s' = streams s ∧ Listable s')
    (fun s1 tn R h1 => ?_) (fun hv _ s2 lr h2 => ⟨h2.1, h2.2.canon, fun x hx => ?_⟩) s ⟨rfl, h⟩
  · obtain ⟨e, g⟩ := op_streams s1 h1.2 (.insert tn R)
    exact ⟨e.trans h1.1, g⟩
  · simp only [Table.isValidName, Bool.and_eq_true] at hv
    rcases insertTable_mem _ _ _ hx with rfl | hx
    · exact hv.2
    · exact h2.2.tables x hx

theorem dropTable_streams (s : Pkg) (h : Listable s) (name : List Char) :
    streams (dropTable s name).1 = streams s ∧ Listable (dropTable s name).1 := by
  refine MsiProofs.Exec.dropTable_keeps (P := fun s' => streams s' = streams s ∧ Listable s') name
    (fun s1 t _ h1 => ?_) (fun s1 tn c h1 => ?_)
    (fun s1 h1 => ⟨h1.1, h1.2.canon, fun x hx => h1.2.tables x (List.mem_filter.mp hx).1⟩) s ⟨rfl, h⟩
  · -- releasing the rows touches the pool only; the stream removed is a table stream
    unfold MsiProofs.Exec.dropStream
    split
    · cases s1.loadRows t with
      | err k => exact h1
      | panic w => exact h1
      | ok rows =>
        exact ⟨(listing_remove_other s1.cont h1.2.canon _ (Or.inr ⟨t.name, rfl⟩)).trans h1.1,
          canon_remove _ h1.2.canon _, h1.2.tables⟩
    · exact h1
  · obtain ⟨e, g⟩ := op_streams s1 h1.2 (.delete tn c)
    exact ⟨e.trans h1.1, g⟩

theorem special_summary : sSummary ∈ specialNames :=
  List.mem_cons_of_mem _ (List.mem_cons_of_mem _ List.mem_cons_self)
theorem pool_names_valid : isValid Gen.nameStringPool.toList true = true ∧ isValid Gen.nameStringData.toList true = true := by
  constructor <;> decide

theorem listing_put_meta (c : List Entry) (hc : CanonC c) (nm : List Char) (d : Bytes)
    (hnm : nm = sSummary ∨ nm = sPool ∨ nm = sData) :
    (Cont.put c nm d).filterMap lists = c.filterMap lists ∧ CanonC (Cont.put c nm d) := by
  rcases hnm with rfl | rfl | rfl
  · exact ⟨listing_put_other c _ d (lists_special ⟨sSummary, d⟩ special_summary),
      canon_put c hc _ (Or.inl special_summary) d⟩
  · exact ⟨listing_put_other c sPool d (lists_table d Gen.nameStringPool.toList),
      canon_put c hc sPool (Or.inr (Or.inl ⟨_, pool_names_valid.1, rfl⟩)) d⟩
  · exact ⟨listing_put_other c sData d (lists_table d Gen.nameStringData.toList),
      canon_put c hc sData (Or.inr (Or.inl ⟨_, pool_names_valid.2, rfl⟩)) d⟩

theorem finish_streams (s : Pkg) (h : Listable s) : streams (finish s).1 = streams s ∧ Listable (finish s).1 := by
  obtain ⟨puts, sm, pm, e, hputs, -⟩ := MsiProofs.Exec.finish_fst s
  rw [e]
  have : ∀ (puts : List (List Char × Bytes)) (c : List Entry), CanonC c →
      (∀ x ∈ puts, x.1 = sSummary ∨ x.1 = sPool ∨ x.1 = sData) →
      (puts.foldl (fun c x => Cont.put c x.1 x.2) c).filterMap lists = c.filterMap lists ∧
      CanonC (puts.foldl (fun c x => Cont.put c x.1 x.2) c) := by
    intro puts
    induction puts with
    | nil => exact fun c hc _ => ⟨rfl, hc⟩
    | cons x rest ih =>
      intro c hc hx
      obtain ⟨e1, c1⟩ := listing_put_meta c hc x.1 x.2 (hx x List.mem_cons_self)
      obtain ⟨e2, c2⟩ := ih _ c1 fun y hy => hx y (List.mem_cons_of_mem _ hy)
      exact ⟨e2.trans e1, c2⟩
  obtain ⟨e1, c1⟩ := this puts s.cont h.canon hputs
  exact ⟨e1, c1, h.tables⟩

/-- the listing after a call, given the listing before: only stream writes and removals change it -/
def specNames (N : List (List Char)) : Step → List (List Char)
  | .writeStream n _ => if isValid n false = true ∧ n ∉ N then N ++ [n] else N
  | .removeStream n => if isValid n false = true then N.filter (· ≠ n) else N
  | _ => N

theorem open_cont (pt : Option Nat) (c : List Entry) (s2 : Pkg) (h : open_ pt c = .ok s2) : s2.cont = c := by
  unfold open_ at h
  split at h
  · cases h; rfl
  · cases h
  · cases h

theorem special_sig : Gen.snDigitalSignature.toList ∈ specialNames ∧ Gen.snMsiDigitalSignatureEx.toList ∈ specialNames :=
  ⟨List.mem_cons_self, List.mem_cons_of_mem _ List.mem_cons_self⟩

/-- **every call of the API does to the stream listing exactly what the specification says**:
in a state whose container is canonical and whose table names are valid, the listing after a call
is `specNames` of the listing before, and the container stays canonical -/
theorem step_streams (s : Pkg) (hc : CanonC s.cont) (hv : ∀ t ∈ s.tables, isValid t.name true = true) (st : Step) :
    streams (st.run s) = specNames (streams s) st ∧ CanonC (st.run s).cont := by
  have h : Listable s := ⟨hc, hv⟩
  cases st with
  | dml op => exact ⟨(op_streams s h op).1, (op_streams s h op).2.canon⟩
  | create n c => exact ⟨(createTable_streams s h n c).1, (createTable_streams s h n c).2.canon⟩
  | drop n => exact ⟨(dropTable_streams s h n).1, (dropTable_streams s h n).2.canon⟩
  | writeStream n d => exact streams_write s hc n d
  | removeStream n => exact streams_remove s hc n
  | removeSignature =>
    show streams (removeDigitalSignature s) = streams s ∧ CanonC (removeDigitalSignature s).cont
    have step : ∀ (c : List Entry) (nm : List Char), CanonC c → nm ∈ specialNames →
        (if Cont.exists_ c nm then Cont.remove c nm else c).filterMap lists = c.filterMap lists ∧
        CanonC (if Cont.exists_ c nm then Cont.remove c nm else c) := by
      intro c nm hcc hsp
      split
      · exact ⟨listing_remove_other c hcc nm (Or.inl hsp), canon_remove c hcc nm⟩
      · exact ⟨rfl, hcc⟩
    obtain ⟨l1, c1⟩ := step s.cont _ hc special_sig.1
    obtain ⟨l2, c2⟩ := step _ _ c1 special_sig.2
    refine ⟨?_, c2⟩
    rw [streams_eq, streams_eq]
    exact l2.trans l1
  | save =>
    show streams (flush s).1 = streams s ∧ CanonC (flush s).1.cont
    unfold flush
    split
    · have := finish_streams _ (listable_setFinisher s false h)
      exact ⟨this.1, this.2.canon⟩
    · exact ⟨rfl, hc⟩
  | reopen =>
    -- `open` keeps the container it reads
    have e : (Step.reopen.run s).cont = s.cont := by
      show (match open_ (some s.ptype) s.cont with | .ok s2 => s2 | _ => s).cont = _
      split
      next s2 ho => exact open_cont _ _ s2 ho
      rfl
    rw [streams_eq, e]
    exact ⟨rfl, hc⟩
  | _ => exact ⟨rfl, hc⟩

/-- the listing the specification predicts after a history -/
def specAll (N : List (List Char)) (steps : List Step) : List (List Char) := steps.foldl specNames N

/-- **the stream listing over a whole life** (property C11): from a freshly created package, after
any admissible history of calls -- statements, `create_table`, `drop_table`, stream writes and
removals, summary and code-page changes, saves and reopenings -- `streams()` is exactly what the
specification computes from the calls: the accepted names written and not since removed, each
once, in order of first writing; nothing else in the file is ever listed -/
theorem history_streams (slack : Nat → Nat) (steps : List Step) : ∀ (s : Pkg) (tabs : List Table),
    MsiProofs.CreateTable.Full slack s tabs → MsiProofs.FullHistory.NoOrphans s → MsiProofs.ValidCells.ValidAll s → CanonC s.cont →
    MsiProofs.Lifecycle2.AdmissibleW s steps →
    streams (runAll s steps) = specAll (streams s) steps ∧ CanonC (runAll s steps).cont := by
  induction steps with
  | nil => intro s tabs _ _ _ hc _; exact ⟨rfl, hc⟩
  | cons st rest ih =>
    intro s tabs hF hN hV hc ha
    obtain ⟨tabs', hF', hN', hV'⟩ := MsiProofs.Lifecycle2.step_all slack s tabs hF hN hV st ha.1
    obtain ⟨e, hc'⟩ := step_streams s hc hF.core.valid_all st
    obtain ⟨e2, hc2⟩ := ih _ tabs' hF' hN' hV' hc' ha.2
    refine ⟨?_, hc2⟩
    show streams (runAll (st.run s) rest) = specAll (specNames (streams s) st) rest
    rw [e2, e]


/-- **from a freshly created package**: the listing after any history of calls is exactly what
the specification computes from the calls, starting from the empty listing -/
theorem created_streams (ptype : Nat) (summary : PropSet) (s0 : Pkg)
    (hc : createTable (MsiProofs.Created.base ptype summary) Gen.nameValidation.toList Catalog.validationColumns = (s0, .ok ()))
    (steps : List Step) (ha : MsiProofs.Lifecycle2.AdmissibleW s0 steps) :
    streams (runAll s0 steps) = specAll [] steps := by
  obtain ⟨hF0, hN0⟩ := MsiProofs.Created.created_full ptype summary s0 hc
  have hV0 := MsiProofs.RelationalLife.created_valid ptype summary s0 hc
  have hb : Listable (MsiProofs.Created.base ptype summary) := by
    refine ⟨⟨fun _ h => (nomatch h), List.nodup_nil⟩, ?_⟩
    intro t ht
    rw [MsiProofs.Created.base_tables] at ht
    simp only [List.mem_cons, List.not_mem_nil, or_false] at ht
    rcases ht with rfl | rfl
    · exact (MsiProofs.CreateTable.catalog_valid false).1
    · exact (MsiProofs.CreateTable.catalog_valid false).2
  obtain ⟨e0, l0⟩ := createTable_streams _ hb Gen.nameValidation.toList Catalog.validationColumns
  rw [hc] at e0 l0
  have hs0 : streams s0 = [] := e0
  have := (history_streams _ steps s0 _ hF0 hN0 hV0 l0.canon ha).1
  rw [this, hs0]

end MsiProofs.StreamsListing
