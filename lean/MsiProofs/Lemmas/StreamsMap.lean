import MsiProofs.Lemmas.Synced
/-
User streams behave like a map from names to byte strings (property C11, second half):
reading returns the last write, writing or removing one name leaves every other name alone,
and nothing a table operation does touches a user stream.
-/
namespace MsiProofs.StreamsMap
open MsiModel MsiModel.Bytes MsiModel.Pkg MsiModel.StreamName MsiProofs.SaveOpen MsiProofs.Synced

theorem find_of_dataOf {c : List Entry} {n : List Char} {d : Bytes} (h : dataOf c n = some d) :
    ∃ e, Cont.find c n = some e ∧ e.data = d :=
  Option.map_eq_some_iff.mp h

theorem readStream_eq (s : Pkg) (n : List Char) (hv : isValid n false = true) :
    readStream s n = match dataOf s.cont (encode n false) with
      | some d => .ok d
      | none => .err .notFound := by
  unfold readStream dataOf
  simp only [hv, Bool.not_true, Bool.false_eq_true, if_false]
  cases Cont.find s.cont (encode n false) <;> rfl

theorem user_stream_injective (a b : List Char) (ha : isValid a false = true) (hb : isValid b false = true)
    (h : key (encode a false) = key (encode b false)) : a = b := by
  unfold key at h
  have h2 := (Prod.mk.inj h).2
  rw [map_upper_unpackable _ (user_encoded_unpackable a), map_upper_unpackable _ (user_encoded_unpackable b)] at h2
  exact MsiProofs.C11.encode_injective a b ha hb h2

/-- **read returns the last write** -/
theorem read_after_write (s : Pkg) (n : List Char) (d : Bytes) (hv : isValid n false = true) :
    (writeStream s n d).2 = .ok () ∧ readStream (writeStream s n d).1 n = .ok d := by
  rw [Exec.writeStream_eq d hv, readStream_eq _ n hv]
  exact ⟨rfl, by simp only [dataOf_put_same]⟩

/-- **a write to one name leaves every other name as it was** -/
theorem write_other (s : Pkg) (n m : List Char) (d : Bytes) (hn : isValid n false = true)
    (hm : isValid m false = true) (hne : n ≠ m) :
    readStream (writeStream s n d).1 m = readStream s m := by
  rw [Exec.writeStream_eq d hn, readStream_eq _ m hm, readStream_eq _ m hm]
  simp only
  rw [dataOf_put_other _ _ _ _ (fun h => hne (user_stream_injective n m hn hm h))]

theorem dataOf_remove_same (c : List Entry) (n : List Char) : dataOf (Cont.remove c n) n = none := by
  unfold dataOf Cont.remove Cont.find
  rw [Option.map_eq_none_iff, List.find?_eq_none]
  intro e he
  simp only [List.mem_filter, Bool.not_eq_true'] at he
  simp [he.2]

/-- **a removed stream is gone** (the others stay: `remove_other`) -/
theorem remove_then_read (s : Pkg) (n : List Char) (hv : isValid n false = true)
    (hex : hasStream s n = true) :
    (removeStream s n).2 = .ok () ∧ readStream (removeStream s n).1 n = .err .notFound := by
  rw [Exec.removeStream_eq hv hex, readStream_eq _ n hv]
  exact ⟨rfl, by simp only [dataOf_remove_same]⟩

theorem remove_other (s : Pkg) (n m : List Char) (hn : isValid n false = true)
    (hm : isValid m false = true) (hne : n ≠ m) :
    readStream (removeStream s n).1 m = readStream s m := by
  cases hex : Cont.exists_ s.cont (encode n false) with
  | false => rw [Exec.removeStream_refused (Or.inr hex)]
  | true =>
    rw [Exec.removeStream_eq hn hex, readStream_eq _ m hm, readStream_eq _ m hm]
    simp only
    rw [dataOf_remove_other _ _ _ (fun h => hne (user_stream_injective n m hn hm h))]

/-- **streams are independent of tables**: writing a table's rows leaves every user stream as it was -/
theorem storeRows_keeps_streams (s : Pkg) (t : Table) (rows : List (List Cell)) (n : List Char)
    (hv : isValid n false = true) :
    readStream (storeRows s t rows).1 n = readStream s n := by
  rw [readStream_eq _ n hv, readStream_eq _ n hv]
  rcases Exec.storeRows_fst s t rows with h | ⟨bs, h⟩ <;> rw [h]
  simp only [Table.streamName, dataOf_put_other _ _ _ _ (user_key_ne_table_key n t.name hv).symm]


/-- what a data-manipulation statement leaves behind: the state it was given, or that state with
a stepped pool and the rows of the one table rewritten -/
def DmlShape (s s' : Pkg) (tname : List Char) : Prop :=
  s' = s ∨ ∃ t pool' rows, s.findTable tname = some t ∧ PoolStep s.pool pool' ∧
    s' = (storeRows { s with pool := pool' } t rows).1

theorem dataOf_of_shape {s s' : Pkg} {tn : List Char} (h : DmlShape s s' tn) {X : Table} (hX : s.findTable tn = some X)
    {n : List Char} (hn : key X.streamName ≠ key n) : dataOf s'.cont n = dataOf s.cont n := by
  rcases h with rfl | ⟨t, pool', rows, hf, -, rfl⟩
  · rfl
  · cases Option.some.inj (hf.symm.trans hX)
    rcases Exec.storeRows_fst { s with pool := pool' } X rows with h | ⟨bs, h⟩ <;> rw [h]
    exact dataOf_put_other _ _ _ _ hn

theorem onTable_shape (s : Pkg) (tname : List Char) (plan : Table → Res (Pool × List (List Cell)))
    (hplan : ∀ t p out, plan t = .ok (p, out) → PoolStep s.pool p) : DmlShape s (Exec.onTable s tname plan).1 tname :=
  (Exec.onTable_stored s tname plan).imp_right fun ⟨t, p, out, hf, hp, h⟩ => ⟨t, p, out, hf, hplan t p out hp, h⟩

theorem insertExec_shape (s : Pkg) (tname : List Char) (rows : List (List Value)) :
    DmlShape s (insertExec s tname rows).1 tname := by
  rw [Exec.insertExec_eq]
  exact onTable_shape s _ _ fun _ _ _ => Exec.insertPlan_rel poolStep_rel fun _ _ _ _ => trivial

theorem deleteExec_shape (s : Pkg) (tname : List Char) (cond : Option Ast) :
    DmlShape s (deleteExec s tname cond).1 tname := by
  rw [Exec.deleteExec_eq]
  exact onTable_shape s _ _ fun _ _ _ => Exec.deletePlan_rel poolStep_rel

theorem updateExec_shape (s : Pkg) (tname : List Char) (ups : List (List Char × Value)) (cond : Option Ast) :
    DmlShape s (updateExec s tname ups cond).1 tname := by
  rw [Exec.updateExec_eq]
  exact onTable_shape s _ _ fun _ _ _ => Exec.updatePlan_rel poolStep_rel fun _ _ _ _ => trivial

/-- **streams are independent of tables**: no insert, update or delete — accepted or refused —
changes what any user stream reads as -/
theorem dml_keeps_streams (s s' : Pkg) (tname : List Char) (h : DmlShape s s' tname) (n : List Char)
    (hv : isValid n false = true) : readStream s' n = readStream s n := by
  rcases h with rfl | ⟨t, pool', rows, -, -, rfl⟩
  · rfl
  · rw [storeRows_keeps_streams _ t rows n hv]
    rw [readStream_eq _ n hv, readStream_eq _ n hv]

theorem loadRows_eq (s : Pkg) (t : Table) :
    s.loadRows t = match dataOf s.cont t.streamName with
      | some d => t.readRows d
      | none => pure [] := by
  unfold Pkg.loadRows dataOf
  cases Cont.find s.cont t.streamName <;> rfl

theorem write_keeps_rows (s : Pkg) (n : List Char) (d : Bytes) (t : Table) :
    (writeStream s n d).1.loadRows t = s.loadRows t := by
  cases hv : isValid n false with
  | false => rw [Exec.writeStream_refused d hv]
  | true =>
    rw [Exec.writeStream_eq d hv, loadRows_eq, loadRows_eq]
    simp only
    rw [show t.streamName = encode t.name true from rfl, dataOf_put_other _ _ _ _ (user_key_ne_table_key n t.name hv)]

end MsiProofs.StreamsMap
