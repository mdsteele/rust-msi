import MsiProofs.Lemmas.Utf8Lifecycle
import MsiProofs.Props.C18
import MsiProofs.Props.C10
/-
The summary information stays expressible (properties C01, C10): under the UTF-8 code page, the
property set built by `Package::create` and changed by the setters and clearers of
`summary_info_mut()` — title, subject, author, comments, creating application, UUID, word count,
creation time, and the template property (`set_arch`, `set_languages`); strings of less than
128 MiB — is always a well-formed property set (`WF`): ids
ascending, values in range and encodable, the cached code page consistent with property 1, the
section size below 4 GiB.  So the last hypothesis of the whole-life theorem is discharged.
-/
namespace MsiProofs.SummaryInv
open MsiModel MsiModel.Bytes MsiProofs.PropSetCodec MsiProofs.Utf8Lifecycle

/-- the largest encoded string a summary property may hold here (128 MiB) -/
def bound : Nat := 134217728

/-- values small enough that twenty of them fit a section -/
def ValSmall : PropVal → Prop
  | .lpstr s => (utf8Bytes s).length < bound
  | .i1 n => -128 ≤ n ∧ n ≤ 127
  | .i2 n => -32768 ≤ n ∧ n ≤ 32767
  | .i4 n => -2147483648 ≤ n ∧ n ≤ 2147483647
  | .fileTime t => t < 18446744073709551616
  | _ => True

structure SumInv (p : PropSet) : Prop where
  cp : IsUtf8 p.codepage
  os : p.os ≤ 2
  osVersion : p.osVersion < 65536
  clsid : p.clsid.length = 16
  fmtid : p.fmtid = Gen.summaryFmtid
  asc : (p.props.map (·.1)).Pairwise (· < ·)
  ids : ∀ kv ∈ p.props, kv.1 < 20
  vals : ∀ kv ∈ p.props, ValSmall kv.2
  cpc : CpConsistent p.props p.codepage

theorem valOk_of_small (cp : Nat) (hcp : IsUtf8 cp) (v : PropVal) (h : ValSmall v) : ValOk cp v := by
  cases v with
  | lpstr s =>
    obtain ⟨h1, h2⟩ := utf8_roundtrip cp hcp s
    exact ⟨utf8Bytes s, h1, h2, by unfold ValSmall bound at h; omega⟩
  | _ => exact h

theorem written_small (cp : Nat) (hcp : IsUtf8 cp) (v : PropVal) (h : ValSmall v) (b : Bytes)
    (hw : v.write cp = .ok b) : b.length ≤ bound + 12 := by
  cases v with
  | lpstr s =>
    simp only [PropVal.write, (utf8_roundtrip cp hcp s).1] at hw
    cases hw
    simp only [List.length_append, C10len.u32, List.length_cons, List.length_nil, List.length_replicate]
    unfold ValSmall at h
    omega
  | _ =>
    -- the other values are written as at most 12 bytes
    cases hw
    exact Nat.le_trans (Nat.le_of_ble_eq_true rfl) (Nat.le_add_left 12 bound)

theorem total_small (cp : Nat) (hcp : IsUtf8 cp) : ∀ (props : List (Nat × PropVal)) (vbs : List Bytes),
    (∀ kv ∈ props, ValSmall kv.2) → Written cp props vbs → total vbs ≤ props.length * (bound + 12) := by
  intro props vbs hv hw
  induction hw with
  | nil => simp [total]
  | @cons k v b rest bs hb _ ih =>
    have h1 := written_small cp hcp v (hv (k, v) (by simp)) b hb
    have h2 := ih (fun x hx => hv x (by simp [hx]))
    simp only [total, List.length_cons]
    rw [Nat.add_mul]
    omega

/-- strictly ascending numbers below `n` are at most `n` many: they are pairwise different members
of `List.range n` -/
theorem length_le_of_asc (l : List Nat) (n : Nat) (hp : l.Pairwise (· < ·)) (hb : ∀ x ∈ l, x < n) : l.length ≤ n := by
  have := (List.subperm_of_subset (hp.imp Nat.ne_of_lt) fun x hx => List.mem_range.mpr (hb x hx)).length_le
  rwa [List.length_range] at this

/-- **the invariant gives what a save needs** -/
theorem sumInv_wf (p : PropSet) (h : SumInv p) : WF p ∧ p.fmtid = Gen.summaryFmtid := by
  have hlen : p.props.length ≤ 20 := by
    have := length_le_of_asc (p.props.map (·.1)) 20 h.asc (by
      intro x hx
      obtain ⟨kv, hkv, rfl⟩ := List.mem_map.mp hx
      exact h.ids kv hkv)
    simpa using this
  refine ⟨⟨h.os, h.osVersion, h.clsid, by rw [h.fmtid]; rfl, h.asc, ?_, ?_, h.cpc, ?_⟩, h.fmtid⟩
  · intro kv hkv; have := h.ids kv hkv; omega
  · intro kv hkv; exact valOk_of_small p.codepage h.cp kv.2 (h.vals kv hkv)
  · intro vbs hw
    have := total_small p.codepage h.cp p.props vbs h.vals hw
    have hb : p.props.length * (bound + 12) ≤ 20 * (bound + 12) := Nat.mul_le_mul_right _ hlen
    unfold bound at *
    omega

/-! ### the setters and clearers keep it -/

theorem insertSorted_mem (id : Nat) (v : PropVal) : ∀ (l : List (Nat × PropVal)) (kv : Nat × PropVal),
    kv ∈ PropSet.insertSorted id v l → kv = (id, v) ∨ kv ∈ l
  | [], kv, h => Or.inl (List.mem_singleton.mp h)
  | (k, w) :: rest, kv, h => by
    unfold PropSet.insertSorted at h
    split at h
    · exact List.mem_cons.mp h
    split at h
    · exact (List.mem_cons.mp h).imp_right (List.mem_cons_of_mem _)
    · rcases List.mem_cons.mp h with h | h
      · exact Or.inr (h ▸ List.mem_cons_self)
      · exact (insertSorted_mem id v rest kv h).imp_right (List.mem_cons_of_mem _)

theorem insertSorted_asc (id : Nat) (v : PropVal) : ∀ (l : List (Nat × PropVal)),
    (l.map (·.1)).Pairwise (· < ·) → ((PropSet.insertSorted id v l).map (·.1)).Pairwise (· < ·) := by
  intro l
  induction l with
  | nil => intro _; simp [PropSet.insertSorted]
  | cons x rest ih =>
    intro h
    obtain ⟨k, w⟩ := x
    simp only [List.map_cons, List.pairwise_cons] at h
    simp only [PropSet.insertSorted]
    split
    · rename_i hlt
      simp only [List.map_cons, List.pairwise_cons, List.mem_cons, forall_eq_or_imp]
      refine ⟨⟨hlt, fun a ha => by have := h.1 a ha; omega⟩, h.1, h.2⟩
    · split
      · rename_i _ heq
        subst heq
        simp only [List.map_cons, List.pairwise_cons]
        exact ⟨h.1, h.2⟩
      · rename_i hn1 hn2
        simp only [List.map_cons, List.pairwise_cons]
        refine ⟨?_, ih h.2⟩
        intro a ha
        obtain ⟨kv, hkv, rfl⟩ := List.mem_map.mp ha
        rcases insertSorted_mem id v rest kv hkv with rfl | hm
        · simp only; omega
        · exact h.1 _ (List.mem_map.mpr ⟨kv, hm, rfl⟩)

theorem find_filter_other (id j : Nat) (hne : id ≠ j) (l : List (Nat × PropVal)) :
    (l.filter (·.1 != id)).find? (fun kv => kv.1 == j) = l.find? (fun kv => kv.1 == j) := by
  rw [List.find?_filter]
  congr 1
  funext kv
  by_cases h : kv.1 = j
  · simp [h, Ne.symm hne]
  · simp [h]

/-- **a setter keeps the summary expressible** (any property other than the code page) -/
theorem sumInv_set (p : PropSet) (h : SumInv p) (id : Nat) (v : PropVal) (hid : id ≠ Gen.propCodepage)
    (hlt : id < 20) (hv : ValSmall v) : SumInv (p.set id v) := by
  have hcp : (p.set id v).codepage = p.codepage := by
    unfold PropSet.set; simp [hid]
  have hprops : (p.set id v).props = PropSet.insertSorted id v p.props := rfl
  refine ⟨by rw [hcp]; exact h.cp, h.os, h.osVersion, h.clsid, h.fmtid, ?_, ?_, ?_, ?_⟩
  · rw [hprops]; exact insertSorted_asc id v p.props h.asc
  · intro kv hkv
    rw [hprops] at hkv
    rcases insertSorted_mem id v p.props kv hkv with rfl | hm
    · exact hlt
    · exact h.ids kv hm
  · intro kv hkv
    rw [hprops] at hkv
    rcases insertSorted_mem id v p.props kv hkv with rfl | hm
    · exact hv
    · exact h.vals kv hm
  · unfold CpConsistent
    rw [hcp, hprops, MsiProofs.C10.find?_insertSorted, if_neg (Ne.symm hid)]
    exact h.cpc

/-- **a clearer keeps the summary expressible** -/
theorem sumInv_remove (p : PropSet) (h : SumInv p) (id : Nat) (hid : id ≠ Gen.propCodepage) :
    SumInv (p.remove id) := by
  have hprops : (p.remove id).props = p.props.filter (·.1 != id) := rfl
  refine ⟨h.cp, h.os, h.osVersion, h.clsid, h.fmtid, ?_, ?_, ?_, ?_⟩
  · rw [hprops]
    exact h.asc.sublist ((List.filter_sublist).map _)
  · intro kv hkv; rw [hprops] at hkv; exact h.ids kv (List.mem_filter.mp hkv).1
  · intro kv hkv; rw [hprops] at hkv; exact h.vals kv (List.mem_filter.mp hkv).1
  · unfold CpConsistent
    show (match (p.props.filter (·.1 != id)).find? (fun kv => kv.1 == Gen.propCodepage) with
      | some (_, .i2 n) => CodePage.fromId ((ofI16 n : Nat) : Int) = some p.codepage
      | some _ => False
      | none => p.codepage = Gen.cpDefault)
    rw [find_filter_other id Gen.propCodepage hid]
    exact h.cpc

/-! ### the calls of `summary_info_mut()` covered -/

/-- setters and clearers of the summary information (the template property — architecture and
languages — is `TemplOp` below; the summary code page is left out) -/
inductive SumOp
  | str (id : Nat) (s : List Char)       -- title 2, subject 3, author 4, comments 6, creating application 18
  | wordCount (n : Int)
  | uuid (nibbles : List Nat)
  | creationTime (t : Int)
  | clear (id : Nat)

def SumOp.apply : SumOp → PropSet → PropSet
  | .str id s, p => p.set id (.lpstr s)
  | .wordCount n, p => p.set Gen.propWordCount (.i4 n)
  | .uuid ns, p => Summary.setUuid p ns
  | .creationTime t, p => Summary.setCreationTime p t
  | .clear id, p => p.remove id

/-- the arguments the API admits: a string property's id, text of less than 128 MiB, a 32-bit word
count, 32 nibbles -/
def SumOp.Ok : SumOp → Prop
  | .str id s => id ∈ [Gen.propTitle, Gen.propSubject, Gen.propAuthor, Gen.propComments, Gen.propCreatingApp] ∧
      (utf8Bytes s).length < bound
  | .wordCount n => -2147483648 ≤ n ∧ n ≤ 2147483647
  | .uuid ns => ns.length = 32
  | .creationTime _ => True
  | .clear id => id ∈ [Gen.propTitle, Gen.propSubject, Gen.propAuthor, Gen.propComments, Gen.propCreatingApp,
      Gen.propWordCount, Gen.propUuid, Gen.propCreationTime]

theorem fromSystemTime_lt (t : Int) : Timestamp.fromSystemTime t < 18446744073709551616 := by
  have e5 : Timestamp.u64Max = 18446744073709551615 := rfl
  by_cases h : 0 ≤ t
  · rw [MsiProofs.C18.fromSystemTime_nonneg t h, e5]; omega
  · rw [MsiProofs.C18.fromSystemTime_neg t h]; omega

/-- **every covered setter / clearer keeps the summary expressible** -/
theorem sumInv_apply (p : PropSet) (h : SumInv p) (op : SumOp) (hok : op.Ok) : SumInv (op.apply p) := by
  cases op with
  | str id s =>
    obtain ⟨hid, hs⟩ := hok
    simp only [List.mem_cons, List.mem_nil_iff, or_false] at hid
    have : id ≠ Gen.propCodepage ∧ id < 20 := by
      rcases hid with rfl | rfl | rfl | rfl | rfl <;> decide
    exact sumInv_set p h id (.lpstr s) this.1 this.2 hs
  | wordCount n => exact sumInv_set p h Gen.propWordCount (.i4 n) (by decide) (by decide) hok
  | uuid ns =>
    show SumInv (Summary.setUuid p ns)
    unfold Summary.setUuid
    apply sumInv_set p h Gen.propUuid _ (by decide) (by decide)
    -- braces, 32 digits, 4 hyphens: 38 characters of at most 4 bytes each
    show (utf8Bytes _).length < bound
    refine Nat.lt_of_le_of_lt (utf8Bytes_bounds _).2 ?_
    have hns : ns.length = 32 := hok
    simp only [List.length_append, List.length_cons, List.length_nil, List.length_take, List.length_drop,
      List.length_map, hns]
    unfold bound
    omega
  | creationTime t =>
    exact sumInv_set p h Gen.propCreationTime (.fileTime (Timestamp.fromSystemTime t)) (by decide) (by decide)
      (fromSystemTime_lt t)
  | clear id =>
    simp only [SumOp.Ok, List.mem_cons, List.mem_nil_iff, or_false] at hok
    have : id ≠ Gen.propCodepage := by
      rcases hok with rfl | rfl | rfl | rfl | rfl | rfl | rfl | rfl <;> decide
    exact sumInv_remove p h id this


/-! ### the template property: architecture and languages -/

/-- the template text `set_arch` stores: the new architecture, a semicolon, the languages part kept -/
def archText (p : PropSet) (a : List Char) : List Char :=
  a ++ [';'] ++ (match Summary.getStr p Gen.propTemplate with
    | some t => match Summary.splitOnce ';' t with
      | some (_, l) => l
      | none => []
    | none => [])

/-- the template text `set_languages` stores: the architecture part kept, a semicolon, the codes -/
def langsText (p : PropSet) (codes : List Nat) : List Char :=
  (match Summary.getStr p Gen.propTemplate with
    | some t => match Summary.splitOnce ';' t with
      | some (x, _) => x
      | none => t
    | none => []) ++ [';'] ++ List.intercalate [','] (codes.map fun c => (toString c).toList)

theorem setArch_eq (p : PropSet) (a : List Char) :
    Summary.setArch p a = p.set Gen.propTemplate (.lpstr (archText p a)) := rfl
theorem setLanguages_eq (p : PropSet) (codes : List Nat) :
    Summary.setLanguages p codes = p.set Gen.propTemplate (.lpstr (langsText p codes)) := rfl

/-- the two setters of the template property (`set_arch`, `set_languages`) -/
inductive TemplOp
  | arch (a : List Char)
  | languages (codes : List Nat)

def TemplOp.apply : TemplOp → PropSet → PropSet
  | .arch a, p => Summary.setArch p a
  | .languages cs, p => Summary.setLanguages p cs

/-- admitted in a state when the template text that results stays below 128 MiB -/
def TemplOp.OkIn (p : PropSet) : TemplOp → Prop
  | .arch a => (utf8Bytes (archText p a)).length < bound
  | .languages cs => (utf8Bytes (langsText p cs)).length < bound

/-- **the template setters keep the summary expressible** -/
theorem sumInv_templ (p : PropSet) (h : SumInv p) (op : TemplOp) (hok : op.OkIn p) : SumInv (op.apply p) := by
  cases op with
  | arch a => exact sumInv_set p h Gen.propTemplate _ (by decide) (by decide) hok
  | languages cs => exact sumInv_set p h Gen.propTemplate _ (by decide) (by decide) hok

end MsiProofs.SummaryInv
