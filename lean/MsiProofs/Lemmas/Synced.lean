import MsiProofs.Lemmas.SaveOpen
import MsiProofs.Lemmas.Loops
import MsiProofs.Lemmas.Exec
import MsiProofs.Lemmas.PoolOps
import MsiProofs.Props.C11
/-
The invariant that makes "save, then reopen" work over whole histories: whenever the
"modified" flag of the string pool (of the summary) is down, the pool (summary) streams in
the container decode to the in-memory pool (summary).  Every operation either leaves the
pool as it is or raises the flag, and writes only the stream of the table it works on.
-/
namespace MsiProofs.Synced
open MsiModel MsiModel.Bytes MsiModel.Pkg MsiProofs.SaveOpen MsiProofs.Loops MsiProofs.Exec

/-- the pool after a step: untouched, or flagged as modified -/
def PoolStep (p p' : Pool) : Prop := p' = p ∨ p'.modified = true

theorem PoolStep.refl (p : Pool) : PoolStep p p := Or.inl rfl
theorem PoolStep.trans {p p' p'' : Pool} (h1 : PoolStep p p') (h2 : PoolStep p' p'') : PoolStep p p'' := by
  rcases h2 with rfl | h2
  · exact h1
  · exact Or.inr h2

theorem incref_step (p : Pool) (s : List Char) (p' : Pool) (r : Nat) (h : p.incref s = .ok (p', r)) :
    PoolStep p p' := by
  rcases PoolOps.incref_eq_ok h with ⟨_, _, _, _, ⟨_, rfl⟩ | ⟨_, _, _, rfl⟩⟩ | ⟨_, _, _, _, rfl⟩ <;> exact Or.inr rfl

theorem decref_step (p : Pool) (r : Nat) : PoolStep p (p.decref r) := by
  rcases PoolOps.decref_eq p r with ⟨_, _, _, _, h⟩ | ⟨_, h⟩ <;> rw [h]
  · exact Or.inr rfl
  · exact Or.inl rfl

/-- every loop of the statements takes a `PoolStep` -/
theorem poolStep_rel : PoolRel (fun _ => True) PoolStep :=
  ⟨.refl, .trans, fun p s p' r _ => incref_step p s p' r, decref_step⟩


/-! ### the invariant -/

/-- whenever a "modified" flag is down, the corresponding streams of the container decode to
the in-memory value -/
structure Synced (s : Pkg) : Prop where
  summary : s.summaryModified = false →
    ∃ sb, dataOf s.cont sSummary = some sb ∧ Summary.read sb = .ok s.summary
  pool : s.pool.modified = false →
    ∃ pb db, dataOf s.cont sPool = some pb ∧ dataOf s.cont sData = some db ∧ Pool.read pb db = .ok s.pool

/-- a stream name that is none of the three metadata streams (under cfb's comparison) -/
def NotMeta (n : List Char) : Prop := key n ≠ key sPool ∧ key n ≠ key sData ∧ key n ≠ key sSummary

def SameMeta (c c' : List Entry) : Prop :=
  dataOf c' sPool = dataOf c sPool ∧ dataOf c' sData = dataOf c sData ∧ dataOf c' sSummary = dataOf c sSummary

theorem SameMeta.refl (c : List Entry) : SameMeta c c := ⟨rfl, rfl, rfl⟩
theorem SameMeta.trans {a b c : List Entry} (h1 : SameMeta a b) (h2 : SameMeta b c) : SameMeta a c :=
  ⟨h2.1.trans h1.1, h2.2.1.trans h1.2.1, h2.2.2.trans h1.2.2⟩

theorem sameMeta_put (c : List Entry) (n : List Char) (d : Bytes) (hn : NotMeta n) : SameMeta c (Cont.put c n d) :=
  ⟨dataOf_put_other _ _ _ _ hn.1, dataOf_put_other _ _ _ _ hn.2.1, dataOf_put_other _ _ _ _ hn.2.2⟩

theorem dataOf_remove_other (c : List Entry) (n m : List Char) (hnm : key n ≠ key m) :
    dataOf (Cont.remove c n) m = dataOf c m := by
  unfold Cont.remove dataOf Cont.find
  rw [List.find?_filter]
  congr 2
  funext e
  cases hm : Cont.nameEq e.name m with
  | false => simp
  | true =>
    -- an entry named `m` is not named `n`, so the filter lets it through
    simp [(nameEq_false_iff _ _).mpr fun hk => hnm (hk.symm.trans ((nameEq_iff _ _).mp hm))]

theorem sameMeta_remove (c : List Entry) (n : List Char) (hn : NotMeta n) : SameMeta c (Cont.remove c n) :=
  ⟨dataOf_remove_other _ _ _ hn.1, dataOf_remove_other _ _ _ hn.2.1, dataOf_remove_other _ _ _ hn.2.2⟩

/-- what an operation other than a save does to the parts of the package the invariant speaks
about: the pool takes a `PoolStep`, the metadata streams stay as they are, the summary is not
touched -/
structure Effect (s s' : Pkg) : Prop where
  pool : PoolStep s.pool s'.pool
  cont : SameMeta s.cont s'.cont
  summary : s'.summary = s.summary
  summaryModified : s'.summaryModified = s.summaryModified

theorem Effect.refl (s : Pkg) : Effect s s := ⟨.refl _, .refl _, rfl, rfl⟩
theorem Effect.trans {a b c : Pkg} (h1 : Effect a b) (h2 : Effect b c) : Effect a c :=
  ⟨h1.pool.trans h2.pool, h1.cont.trans h2.cont, h2.summary.trans h1.summary,
   h2.summaryModified.trans h1.summaryModified⟩

/-- **the invariant is preserved by every such effect** -/
theorem synced_of_effect (s s' : Pkg) (hS : Synced s) (he : Effect s s') : Synced s' := by
  refine ⟨?_, ?_⟩
  · intro hm
    rw [he.summaryModified] at hm
    obtain ⟨sb, h1, h2⟩ := hS.summary hm
    exact ⟨sb, by rw [he.cont.2.2]; exact h1, by rw [he.summary]; exact h2⟩
  · intro hm
    have hp : s'.pool = s.pool := by
      rcases he.pool with h | h
      · exact h
      · rw [hm] at h; cases h
    rw [hp] at hm ⊢
    obtain ⟨pb, db, h1, h2, h3⟩ := hS.pool hm
    exact ⟨pb, db, by rw [he.cont.1]; exact h1, by rw [he.cont.2.1]; exact h2, h3⟩

/-- the tables of the package are stored in streams of their own -/
def TablesSeparate (s : Pkg) : Prop := ∀ t ∈ s.tables, NotMeta t.streamName

theorem findTable_mem {s : Pkg} {n : List Char} {t : Table} (h : s.findTable n = some t) : t ∈ s.tables := by
  unfold Pkg.findTable at h
  exact List.mem_of_find?_eq_some h

theorem onTable_effect (s : Pkg) (hsep : TablesSeparate s) (tn : List Char)
    (plan : Table → Res (Pool × List (List Cell)))
    (hplan : ∀ t p out, plan t = .ok (p, out) → PoolStep s.pool p) :
    Effect s (onTable s tn plan).1 ∧ (onTable s tn plan).1.tables = s.tables := by
  rcases onTable_stored s tn plan with h | ⟨t, p, out, hf, hp, h⟩ <;> rw [h]
  · exact ⟨.refl s, rfl⟩
  · rcases storeRows_fst { s with pool := p } t out with e | ⟨bs, e⟩ <;> rw [e]
    · exact ⟨⟨hplan t p out hp, .refl _, rfl, rfl⟩, rfl⟩
    · exact ⟨⟨hplan t p out hp, sameMeta_put _ _ _ (hsep t (findTable_mem hf)), rfl, rfl⟩, rfl⟩

theorem insertExec_effect (s : Pkg) (hsep : TablesSeparate s) (tname : List Char) (rows : List (List Value)) :
    Effect s (insertExec s tname rows).1 ∧ (insertExec s tname rows).1.tables = s.tables := by
  rw [insertExec_eq]
  exact onTable_effect s hsep _ _ fun _ _ _ => insertPlan_rel poolStep_rel fun _ _ _ _ => trivial

theorem deleteExec_effect (s : Pkg) (hsep : TablesSeparate s) (tname : List Char) (cond : Option Ast) :
    Effect s (deleteExec s tname cond).1 ∧ (deleteExec s tname cond).1.tables = s.tables := by
  rw [deleteExec_eq]
  exact onTable_effect s hsep _ _ fun _ _ _ => deletePlan_rel poolStep_rel

theorem updateExec_effect (s : Pkg) (hsep : TablesSeparate s) (tname : List Char)
    (ups : List (List Char × Value)) (cond : Option Ast) :
    Effect s (updateExec s tname ups cond).1 ∧ (updateExec s tname ups cond).1.tables = s.tables := by
  rw [updateExec_eq]
  exact onTable_effect s hsep _ _ fun _ _ _ => updatePlan_rel poolStep_rel fun _ _ _ _ => trivial


/-! ### where the invariant comes from, and what it gives -/

theorem dataOf_of_streamOf {c : List Entry} {n : List Char} {d : Bytes} (h : streamOf c n = .ok d) :
    dataOf c n = some d := by
  unfold streamOf at h
  unfold dataOf
  cases hf : Cont.find c n with
  | none => simp [hf] at h
  | some e => simp only [hf, pure, Res.ok.injEq] at h; simp [h]

/-- **a package that was just opened is in sync** (nothing modified; summary and pool are what
the streams decode to — by the definition of `open`) -/
theorem open_synced (pt : Option Nat) (cont : List Entry) (s : Pkg) (h : open_ pt cont = .ok s) : Synced s := by
  unfold open_ at h
  cases hc : openCore pt cont with
  | err k => rw [hc] at h; cases h
  | panic w => rw [hc] at h; cases h
  | ok x =>
    obtain ⟨p, summary, pool, tables⟩ := x
    rw [hc] at h
    cases h
    obtain ⟨-, sb, pb, db, h1, h2, h3, h7, h8, -⟩ := openCore_ok hc
    exact ⟨fun _ => ⟨sb, dataOf_of_streamOf h1, h2⟩, fun _ => ⟨pb, db, dataOf_of_streamOf h3, dataOf_of_streamOf h7, h8⟩⟩

theorem synced_of_saved (s : Pkg) (h : Saved s) : Synced s := ⟨fun _ => h.summary, fun _ => h.pool⟩

/-- a data-manipulation request as the API runs it (`set_finisher()` first) -/
inductive Dml
  | insert (t : List Char) (rows : List (List Value))
  | delete (t : List Char) (cond : Option Ast)
  | update (t : List Char) (ups : List (List Char × Value)) (cond : Option Ast)

def Dml.run (s : Pkg) : Dml → Pkg
  | .insert t rows => (insertRows s t rows).1
  | .delete t cond => (deleteRows s t cond).1
  | .update t ups cond => (updateRows s t ups cond).1

theorem withFinisher_effect (s : Pkg) : Effect s { s with finisher := true } := ⟨.refl _, .refl _, rfl, rfl⟩

/-! ### table streams are not the metadata streams -/
open MsiModel.StreamName in
theorem upper_id_of_unpackable (c : Char) (h : toB64 c = none) : Cont.upper c = c := by
  unfold Cont.upper
  split
  · rename_i hr
    unfold toB64 at h
    simp only at h
    split at h; · cases h
    split at h; · cases h
    cases h
  · rfl

theorem map_upper_unpackable (l : List Char) (h : ∀ c ∈ l, StreamName.toB64 c = none) : l.map Cont.upper = l := by
  induction l with
  | nil => rfl
  | cons c rest ih =>
    simp only [List.map_cons]
    rw [upper_id_of_unpackable c (h c (by simp)), ih (fun x hx => h x (by simp [hx]))]

open MsiModel.StreamName in
theorem encoded_unpackable (n : List Char) : ∀ c ∈ encode n true, toB64 c = none := by
  intro c hc
  unfold encode at hc
  simp only [if_true, List.singleton_append, List.mem_cons] at hc
  rcases hc with rfl | hc
  · decide
  · rcases MsiProofs.C11.encodeAux_chars n c hc with h | h <;> exact h.2

open MsiModel.StreamName in
theorem map_upper_encoded (n : List Char) : (encode n true).map Cont.upper = encode n true :=
  map_upper_unpackable _ (encoded_unpackable n)

open MsiModel.StreamName in
theorem table_stream_injective (a b : List Char) (ha : isValid a true = true) (hb : isValid b true = true)
    (h : key (encode a true) = key (encode b true)) : a = b := by
  unfold key at h
  have h2 := (Prod.mk.inj h).2
  rw [map_upper_encoded, map_upper_encoded] at h2
  unfold encode at h2
  simp only [if_true, List.singleton_append, List.cons.injEq, true_and] at h2
  have da := MsiProofs.C11.decodeAux_encodeAux a (MsiProofs.C11.isValid_no_pack ha)
  have db := MsiProofs.C11.decodeAux_encodeAux b (MsiProofs.C11.isValid_no_pack hb)
  rw [h2] at da
  rw [da] at db
  exact db

/-- a name made of characters outside the packed range is not the summary stream's: that one
has an `S` -/
theorem unpackable_ne_summary (l : List Char) (h : ∀ c ∈ l, StreamName.toB64 c = none) : key l ≠ key sSummary := by
  intro e
  have h2 := (Prod.mk.inj e).2
  rw [map_upper_unpackable l h] at h2
  have hmem : 'S' ∈ sSummary.map Cont.upper := by decide
  rw [← h2] at hmem
  exact absurd (h 'S' hmem) (by decide)

open MsiModel.StreamName in
theorem table_stream_notMeta (name : List Char) (hv : Table.isValidName name = true)
    (hp : isPoolName name = false) : NotMeta (encode name true) := by
  have hvalid : isValid name true = true := by
    unfold Table.isValidName at hv
    simp only [Bool.and_eq_true] at hv
    exact hv.2
  have hne : name ≠ Gen.nameStringPool.toList ∧ name ≠ Gen.nameStringData.toList := by
    unfold isPoolName at hp
    simp only [Bool.or_eq_false_iff, beq_eq_false_iff_ne, ne_eq] at hp
    exact hp
  refine ⟨?_, ?_, ?_⟩
  · exact fun h => hne.1 (table_stream_injective name _ hvalid (by decide) h)
  · exact fun h => hne.2 (table_stream_injective name _ hvalid (by decide) h)
  · exact unpackable_ne_summary _ (encoded_unpackable name)



/-! ### creating and dropping tables -/

theorem insertTable_mem (ts : List Table) (t x : Table) (h : x ∈ insertTable ts t) : x = t ∨ x ∈ ts := by
  induction ts with
  | nil => exact Or.inl (List.mem_singleton.mp h)
  | cons y rest ih =>
    simp only [insertTable] at h
    split at h
    · exact List.mem_cons.mp h
    · split at h
      · exact (List.mem_cons.mp h).imp_right (List.mem_cons_of_mem y)
      · rcases List.mem_cons.mp h with rfl | h
        · exact Or.inr List.mem_cons_self
        · exact (ih h).imp_right (List.mem_cons_of_mem y)

/-- a step of the API together with what the invariant needs about it -/
structure Good (s s' : Pkg) : Prop where
  effect : Effect s s'
  sep : TablesSeparate s → TablesSeparate s'

theorem Good.refl (s : Pkg) : Good s s := ⟨.refl s, id⟩
theorem Good.trans {a b c : Pkg} (h1 : Good a b) (h2 : Good b c) : Good a c :=
  ⟨h1.effect.trans h2.effect, fun h => h2.sep (h1.sep h)⟩

/-- a statement as the API runs it: `set_finisher()` first -/
theorem good_of_effect {s s' : Pkg} (h : Effect { s with finisher := true } s' ∧ s'.tables = s.tables) : Good s s' :=
  ⟨(withFinisher_effect s).trans h.1, fun hs x hx => hs x (h.2 ▸ hx)⟩

theorem good_insertRows (s : Pkg) (hsep : TablesSeparate s) (t : List Char) (rows : List (List Value)) :
    Good s (insertRows s t rows).1 :=
  good_of_effect (insertExec_effect { s with finisher := true } hsep t rows)

theorem good_deleteRows (s : Pkg) (hsep : TablesSeparate s) (t : List Char) (cond : Option Ast) :
    Good s (deleteRows s t cond).1 :=
  good_of_effect (deleteExec_effect { s with finisher := true } hsep t cond)

theorem good_updateRows (s : Pkg) (hsep : TablesSeparate s) (t : List Char) (ups : List (List Char × Value))
    (cond : Option Ast) : Good s (updateRows s t ups cond).1 :=
  good_of_effect (updateExec_effect { s with finisher := true } hsep t ups cond)

theorem good_createTable (s : Pkg) (hsep : TablesSeparate s) (name : List Char) (cols : List Column) :
    Good s (createTable s name cols).1 := by
  refine createTable_keeps_named (P := Good s) ?_ ?_ s (.refl s)
  · exact fun s1 tn rows g => g.trans (good_insertRows s1 (g.sep hsep) tn rows)
  · intro hv hp s1 long g
    refine g.trans ⟨⟨.refl _, .refl _, rfl, rfl⟩, fun h x hx => ?_⟩
    rcases insertTable_mem _ _ _ hx with rfl | hx
    · exact table_stream_notMeta name hv hp
    · exact h x hx

theorem release_effect (s : Pkg) (t : Table) (ht : NotMeta t.streamName) (rows : List (List Cell)) :
    Effect s { s with finisher := true, pool := rows.foldl (fun p r => r.foldl Cell.remove p) s.pool,
                      cont := Cont.remove s.cont t.streamName } := by
  refine ⟨?_, sameMeta_remove _ _ ht, rfl, rfl⟩
  rw [← List.foldl_flatten]
  exact foldl_remove_rel poolStep_rel _ _

theorem dropStream_effect (s : Pkg) (t : Table) (ht : NotMeta t.streamName) : Effect s (dropStream s t).1 := by
  unfold dropStream
  split
  · cases s.loadRows t with
    | err k => exact .refl s
    | panic w => exact .refl s
    | ok rows => exact release_effect s t ht rows
  · exact .refl s

theorem good_dropTable (s : Pkg) (hsep : TablesSeparate s) (name : List Char) :
    Good s (dropTable s name).1 := by
  refine dropTable_keeps (P := Good s) name ?_ ?_ ?_ s (.refl s)
  · exact fun s1 t hf g => g.trans ⟨dropStream_effect s1 t (g.sep hsep t (findTable_mem hf)), by
      unfold dropStream; split
      · cases s1.loadRows t <;> exact id
      · exact id⟩
  · exact fun s1 tn c g => g.trans (good_deleteRows s1 (g.sep hsep) tn c)
  · exact fun s1 g => g.trans ⟨⟨.refl _, .refl _, rfl, rfl⟩, fun h x hx => h x (List.mem_filter.mp hx).1⟩


/-! ### user streams, signatures, summary and code page setters -/

open MsiModel.StreamName in
theorem user_encoded_unpackable (n : List Char) : ∀ c ∈ encode n false, toB64 c = none := by
  intro c hc
  unfold encode at hc
  simp only [Bool.false_eq_true, if_false, List.nil_append] at hc
  rcases MsiProofs.C11.encodeAux_chars n c hc with h | h <;> exact h.2

open MsiModel.StreamName in
theorem user_key_ne_table_key (n m : List Char) (hv : isValid n false = true) :
    key (encode n false) ≠ key (encode m true) := by
  intro h
  have h2 := (Prod.mk.inj h).2
  rw [map_upper_unpackable _ (user_encoded_unpackable n), map_upper_encoded] at h2
  apply (MsiProofs.C11.separated n hv).2.1
  rw [h2]
  unfold encode
  simp

open MsiModel.StreamName in
theorem user_stream_notMeta (n : List Char) (hv : isValid n false = true) : NotMeta (encode n false) :=
  ⟨user_key_ne_table_key n _ hv, user_key_ne_table_key n _ hv, unpackable_ne_summary _ (user_encoded_unpackable n)⟩

theorem good_writeStream (s : Pkg) (n : List Char) (data : Bytes) : Good s (writeStream s n data).1 := by
  cases hv : StreamName.isValid n false with
  | false => rw [writeStream_refused data hv]; exact .refl s
  | true =>
    rw [writeStream_eq data hv]
    exact ⟨⟨.refl _, sameMeta_put _ _ _ (user_stream_notMeta n hv), rfl, rfl⟩, id⟩

theorem good_removeStream (s : Pkg) (n : List Char) : Good s (removeStream s n).1 := by
  cases hv : StreamName.isValid n false with
  | false => rw [removeStream_refused (Or.inl hv)]; exact .refl s
  | true =>
    cases hex : Cont.exists_ s.cont (StreamName.encode n false) with
    | false => rw [removeStream_refused (Or.inr hex)]; exact .refl s
    | true =>
      rw [removeStream_eq hv hex]
      exact ⟨⟨.refl _, sameMeta_remove _ _ (user_stream_notMeta n hv), rfl, rfl⟩, id⟩

theorem sig_names_notMeta : NotMeta Gen.snDigitalSignature.toList ∧ NotMeta Gen.snMsiDigitalSignatureEx.toList := by
  unfold NotMeta
  decide

theorem sameMeta_cond_remove (c : List Entry) (n : List Char) (hn : NotMeta n) :
    SameMeta c (if Cont.exists_ c n = true then Cont.remove c n else c) := by
  split
  · exact sameMeta_remove _ _ hn
  · exact .refl _

/-- the two conditional removals of `remove_digital_signature`, for any two names: with the
literal names as arguments of a lemma the kernel does not look into them -/
theorem sameMeta_remove_two (c : List Entry) (a b : List Char) (ha : NotMeta a) (hb : NotMeta b) :
    SameMeta c (if Cont.exists_ (if Cont.exists_ c a = true then Cont.remove c a else c) b = true
      then Cont.remove (if Cont.exists_ c a = true then Cont.remove c a else c) b
      else (if Cont.exists_ c a = true then Cont.remove c a else c)) :=
  (sameMeta_cond_remove c a ha).trans (sameMeta_cond_remove _ b hb)

theorem good_removeSig (s : Pkg) : Good s (removeDigitalSignature s) :=
  ⟨⟨.refl _, sameMeta_remove_two s.cont _ _ sig_names_notMeta.1 sig_names_notMeta.2, rfl, rfl⟩, id⟩

/-- every request of the API other than a save -/
inductive Op
  | insert (t : List Char) (rows : List (List Value))
  | delete (t : List Char) (cond : Option Ast)
  | update (t : List Char) (ups : List (List Char × Value)) (cond : Option Ast)
  | createTable (name : List Char) (cols : List Column)
  | dropTable (name : List Char)
  | writeStream (n : List Char) (data : Bytes)
  | removeStream (n : List Char)
  | removeSignature
  | setSummary (f : PropSet → PropSet)        -- any `summary_info_mut()` setter or clearer
  | setCodepage (cp : Nat)                    -- `set_database_codepage`

def Op.run (s : Pkg) : Op → Pkg
  | .insert t rows => (insertRows s t rows).1
  | .delete t cond => (deleteRows s t cond).1
  | .update t ups cond => (updateRows s t ups cond).1
  | .createTable n cols => (Pkg.createTable s n cols).1
  | .dropTable n => (Pkg.dropTable s n).1
  | .writeStream n d => (Pkg.writeStream s n d).1
  | .removeStream n => (Pkg.removeStream s n).1
  | .removeSignature => removeDigitalSignature s
  | .setSummary f => { s with finisher := true, summaryModified := true, summary := f s.summary }
  | .setCodepage cp => { s with finisher := true, pool := { s.pool with codepage := cp, modified := true } }

/-- **one step**: every request keeps the invariant and keeps table streams apart from the
metadata streams -/
theorem op_step (s : Pkg) (op : Op) (hS : Synced s) (hsep : TablesSeparate s) :
    Synced (op.run s) ∧ TablesSeparate (op.run s) := by
  have good : ∀ s', Good s s' → Synced s' ∧ TablesSeparate s' :=
    fun s' g => ⟨synced_of_effect _ _ hS g.effect, g.sep hsep⟩
  cases op with
  | insert t rows => exact good _ (good_insertRows s hsep t rows)
  | delete t cond => exact good _ (good_deleteRows s hsep t cond)
  | update t ups cond => exact good _ (good_updateRows s hsep t ups cond)
  | createTable n cols => exact good _ (good_createTable s hsep n cols)
  | dropTable n => exact good _ (good_dropTable s hsep n)
  | writeStream n d => exact good _ (good_writeStream s n d)
  | removeStream n => exact good _ (good_removeStream s n)
  | removeSignature => exact good _ (good_removeSig s)
  | setSummary f => exact ⟨⟨fun h => by simp [Op.run] at h, hS.pool⟩, hsep⟩
  | setCodepage cp => exact ⟨⟨hS.summary, fun h => by simp [Op.run] at h⟩, hsep⟩

/-- **every history** -/
theorem history (ops : List Op) : ∀ (s : Pkg), Synced s → TablesSeparate s →
    Synced (ops.foldl Op.run s) ∧ TablesSeparate (ops.foldl Op.run s) := by
  induction ops with
  | nil => intro s h1 h2; exact ⟨h1, h2⟩
  | cons op ops ih =>
    intro s h1 h2
    obtain ⟨a, b⟩ := op_step s op h1 h2
    exact ih _ a b

theorem finish_tables (s : Pkg) : (finish s).1.tables = s.tables := by
  obtain ⟨_, _, _, h, -⟩ := finish_fst s
  rw [h]

theorem dataOf_foldl_put (puts : List (List Char × Bytes)) (n : List Char) (h : ∀ x ∈ puts, key x.1 ≠ key n) :
    ∀ c, dataOf (puts.foldl (fun c x => Cont.put c x.1 x.2) c) n = dataOf c n := by
  induction puts with
  | nil => exact fun _ => rfl
  | cons x xs ih =>
    exact fun c => (ih (fun y hy => h y (List.mem_cons_of_mem _ hy)) _).trans
      (dataOf_put_other _ _ _ _ (h x List.mem_cons_self))

theorem finish_step (s s' : Pkg) (E : List Char → Bytes) (hS : Synced s) (hsep : TablesSeparate s)
    (hsav : Savable s E) (h : finish s = (s', .ok ())) : Saved s' ∧ Synced s' ∧ TablesSeparate s' := by
  obtain ⟨hsaved, -, -, -⟩ := finish_saved_general s s' E hsav hS.summary hS.pool h
  obtain rfl : s' = (finish s).1 := by rw [h]
  exact ⟨hsaved, synced_of_saved _ hsaved, fun t hx => hsep t (finish_tables s ▸ hx)⟩


/-- **C01 on the model, for every history**: open any package whose table streams are apart from
the metadata streams, run any sequence of API requests (inserts, updates, deletes, tables
created and dropped, streams written and removed, signatures removed, summary and code page
setters; accepted or refused), save; if the save succeeds and the state is expressible in the
format, then opening the saved container gives a package with the same container, the same
summary information and the same string pool, whose table definitions are those the catalog
tables of that container hold — and every table definition reads the same rows as before -/
theorem reopen_after_any_history (pt : Option Nat) (cont : List Entry) (s0 : Pkg) (h0 : open_ pt cont = .ok s0)
    (hsep : TablesSeparate s0) (ops : List Op) (E : List Char → Bytes)
    (s1 : Pkg) (hflush : finish (ops.foldl Op.run s0) = (s1, .ok ()))
    (hsav : Savable (ops.foldl Op.run s0) E)
    (s2 : Pkg) (hre : open_ (some s1.ptype) s1.cont = .ok s2) :
    s2.cont = s1.cont ∧ s2.summary = s1.summary ∧ s2.pool = s1.pool ∧
    openTables s1.ptype s1.cont s1.summary s1.pool = .ok s2.tables ∧
    (∀ t : Table, s2.loadRows t = s1.loadRows t) := by
  obtain ⟨hS, hsep'⟩ := history ops s0 (open_synced pt cont s0 h0) hsep
  obtain ⟨hsaved, -, -⟩ := finish_step _ s1 E hS hsep' hsav hflush
  obtain ⟨hc, hsum, hpool, -, -, -, htab⟩ := reopen_same_meta s1 hsaved s2 hre
  exact ⟨hc, hsum, hpool, htab, fun t => rows_same_after_reopen s1 s2 hc t⟩

def Dml.toOp : Dml → Op
  | .insert t rows => .insert t rows
  | .delete t cond => .delete t cond
  | .update t ups cond => .update t ups cond

/-- **C01 on the model, for histories of data manipulation**: open any package, run any
sequence of inserts, updates and deletes (accepted or refused), save; if the save succeeds and
the state is expressible in the format (`Savable`), then opening the saved container gives a
package with the same container, the same summary information and the same string pool — so
every table definition reads the same rows as before closing -/
theorem reopen_after_history (pt : Option Nat) (cont : List Entry) (s0 : Pkg) (h0 : open_ pt cont = .ok s0)
    (hsep : TablesSeparate s0) (ops : List Dml) (E : List Char → Bytes)
    (s1 : Pkg) (hflush : finish (ops.foldl Dml.run s0) = (s1, .ok ()))
    (hsav : Savable (ops.foldl Dml.run s0) E)
    (s2 : Pkg) (hre : open_ (some s1.ptype) s1.cont = .ok s2) :
    s2.cont = s1.cont ∧ s2.summary = s1.summary ∧ s2.pool = s1.pool ∧
    (∀ t : Table, s2.loadRows t = s1.loadRows t) := by
  have e : ops.foldl Dml.run s0 = (ops.map Dml.toOp).foldl Op.run s0 := by
    rw [List.foldl_map]
    congr; funext s d; cases d <;> rfl
  rw [e] at hflush hsav
  obtain ⟨hc, hsum, hpool, -, hrows⟩ := reopen_after_any_history pt cont s0 h0 hsep _ E s1 hflush hsav s2 hre
  exact ⟨hc, hsum, hpool, hrows⟩

/-- the three ways of closing run the same finisher: `flush` is `finish` when a finisher is
armed, and every mutating request arms it -/
theorem flush_is_finish (s : Pkg) (h : s.finisher = true) : flush s = finish { s with finisher := false } := by
  rw [flush_eq, if_pos h]

end MsiProofs.Synced
