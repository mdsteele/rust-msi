import MsiProofs.Lemmas.Gate
import MsiProofs.Lemmas.SelectView
import MsiProofs.Lemmas.GlobalInvUpd
/-
The gate of `Update::exec` (properties C07, C03, C04): in every state with the package invariant,
what an update replies is decided by the relational view alone: refused exactly when an
assignment names an unknown column or assigns a value not valid for its column, the condition
names an unknown column, or — when a key column is assigned — two rows would end up with the same
key (`AlreadyExists`); otherwise accepted (or the string pool's capacity panic, the recorded
finding D16b).  No other failure exists.
-/
namespace MsiProofs.UpdateGate
open MsiModel MsiModel.Bytes MsiModel.Pkg MsiProofs.GlobalInv MsiProofs.SortedInv MsiProofs.Frame
open MsiProofs.Refine MsiProofs.Relational MsiProofs.SaveOpen MsiProofs.Order MsiProofs.RowsOk
open MsiProofs.RefineUpdate MsiProofs.SortUpd MsiProofs.Gate MsiProofs.C03 MsiProofs.SelectView

/-- **what an update replies, read off the relational view** (`none` = accepted) -/
def updGate (t : Table) (shown : List (List Value)) (updates : List (List Char × Value)) (cond : Option Ast) :
    Option ErrKind :=
  match validateUpdates t updates with
  | some k => some k
  | none =>
    if condMissing t cond then some .invalidInput else
    if touchesKeys t (upsOf t updates) &&
        !decide (((shown.map (updRow t cond (upsOf t updates))).map (keyV t)).Nodup) then some .alreadyExists
    else none

theorem adjacent_ne {α β} (f : α → β) : ∀ (l : List α), (l.map f).Nodup → ∀ x ∈ l.zip (l.drop 1), f x.1 ≠ f x.2
  | [], _, x, hx => by simp at hx
  | [_], _, x, hx => by simp at hx
  | a :: b :: rest, hn, x, hx => by
    simp only [List.drop_succ_cons, List.drop_zero, List.zip_cons_cons, List.mem_cons] at hx
    simp only [List.map_cons, List.nodup_cons, List.mem_cons, List.mem_map, not_or] at hn
    rcases hx with rfl | hx
    · exact fun e => hn.1.1 e
    · exact adjacent_ne f (b :: rest) (by simp only [List.map_cons, List.nodup_cons, List.mem_map]; exact hn.2) x
        (by simpa using hx)

/-- **the duplicate check of `Update::exec`**: after sorting the row indices by key, two
neighbours share a key exactly when the keys are not pairwise different -/
theorem dup_flag_iff (keys : List (List Value)) :
    ((sortByKey keys (List.range keys.length)).zip ((sortByKey keys (List.range keys.length)).drop 1)).any (fun x =>
      !keyLt (keys.getD x.1 []) (keys.getD x.2 []) && !keyLt (keys.getD x.2 []) (keys.getD x.1 [])) = false ↔
    keys.Nodup := by
  have hperm := MsiProofs.C05.sortByKey_perm keys (List.range keys.length)
  have hsorted := sortByKey_sorted keys (List.range keys.length)
  have hmap : ((sortByKey keys (List.range keys.length)).map fun i => keys.getD i []).Perm keys := by
    have := hperm.map (fun i => keys.getD i [])
    rw [range_map_getD] at this
    exact this
  constructor
  · intro h
    have hs := strict_of_sorted_nodup keys _ hsorted h
    have hn : ((sortByKey keys (List.range keys.length)).map fun i => keys.getD i []).Nodup := by
      rw [List.Nodup, List.pairwise_map]
      exact hs.imp fun hab e => by rw [e, keyLt_irrefl] at hab; cases hab
    exact hmap.nodup_iff.mp hn
  · intro hn
    have hn' := hmap.nodup_iff.mpr hn
    rw [List.any_eq_false]
    intro x hx
    have hne := adjacent_ne (fun i => keys.getD i []) _ hn' x hx
    intro hc
    have := (key_eq_iff (keys.getD x.1 []) (keys.getD x.2 [])).mp hc
    exact hne this.symm

theorem storeRows_upd_ok (s : Pkg) (t : Table) (ups : List (Nat × Value)) (hus : UpsOk t.columns ups)
    (rows : List (List Cell)) (hrows : ∀ r ∈ rows, RowOk t.longRefs t.columns r)
    (hlen : rows.length ≤ Gen.maxTableRows)
    (hs : PoolSized s.pool) (hlr : s.pool.longRefs = t.longRefs) (hpos : 0 < t.rowSize)
    (planned : List (List Value × Bool)) (order : List Nat) (hord : order.Perm (List.range rows.length))
    (pool' : Pool) (rows' : List (List Cell)) (hu : updApply ups s.pool rows planned [] = .ok (pool', rows')) :
    (storeRows { s with pool := pool' } t (order.map fun i => rows'.getD i [])).2 = .ok () := by
  have hr1 := updApply_rowOk t.columns ups hus rows hs
    (by rw [hlr]; exact hrows) (fun _ hx => by simp at hx) hu
  rw [hlr] at hr1
  have hlen' : rows'.length = rows.length := by simpa using MsiProofs.LoopSpecs.updApply_length hu
  have hfperm := map_getD_perm rows' order (by rw [hlen']; exact hord)
  apply storeRows_ok_of_rowOk
  · intro r hr
    exact hr1 r (hfperm.mem_iff.mp hr)
  · exact hpos
  · rw [hfperm.length_eq, hlen']; exact hlen

theorem plan_keys (t : Table) (p : Pool) (cond : Option Ast) (ups : List (Nat × Value)) (rows : List (List Cell))
    (planned : List (List Value × Bool)) (h : updPlan t p cond ups rows [] = .ok planned) :
    Exec.planKeys t planned = ((rows.map (rowValues p)).map (updRow t cond ups)).map (keyV t) := by
  rw [MsiProofs.LoopSpecs.updPlan_eq h, Exec.planKeys, List.reverse_nil, List.nil_append, List.map_map, List.map_map,
    List.map_map]
  exact List.map_congr_left fun r _ => congrArg (keyOf t.keyIndices) (planRow_fst t p cond ups r)

theorem dupKeys_eq (t : Table) (p : Pool) (cond : Option Ast) (ups : List (Nat × Value)) (rows : List (List Cell))
    (planned : List (List Value × Bool)) (h : updPlan t p cond ups rows [] = .ok planned) :
    Exec.dupKeys t ups planned rows.length =
      (touchesKeys t ups && !decide ((((rows.map (rowValues p)).map (updRow t cond ups)).map (keyV t)).Nodup)) := by
  have hflag := dup_flag_iff (Exec.planKeys t planned)
  have hklen : (Exec.planKeys t planned).length = rows.length := by
    rw [plan_keys t p cond ups rows planned h]; simp
  rw [hklen, plan_keys t p cond ups rows planned h] at hflag
  unfold Exec.dupKeys Exec.writeOrder
  rw [plan_keys t p cond ups rows planned h, show (ups.any fun x => t.keyIndices.contains x.1) = touchesKeys t ups from rfl]
  cases touchesKeys t ups with
  | false => rfl
  | true =>
    simp only [Bool.true_and, if_true]
    rw [Bool.eq_iff_iff, Bool.not_eq_true', decide_eq_false_iff_not, ← hflag, Bool.not_eq_false]

/-- **the reply of `Update::exec` is the gate's verdict on the relational view** -/
theorem update_reply (slack : Nat → Nat) (s : Pkg) (hI : Inv slack s) (tname : List Char)
    (updates : List (List Char × Value)) (cond : Option Ast) (t : Table) (ht : s.findTable tname = some t) :
    match updGate t (tableView s t) updates cond with
    | some k => (updateExec s tname updates cond).2 = .err k
    | none => (updateExec s tname updates cond).2 = .ok () ∨ ∃ w, (updateExec s tname updates cond).2 = .panic w := by
  obtain ⟨rows, hl⟩ := hI.loads t (MsiProofs.Synced.findTable_mem ht)
  -- what the plan comes to, by the gate's verdict: after the checks only the capacity panic is left
  have hplan : match updGate t (rows.map (rowValues s.pool)) updates cond with
      | some k => Exec.updatePlan s updates cond t = .err k
      | none => (∃ x, Exec.updatePlan s updates cond t = .ok x) ∨ ∃ w, Exec.updatePlan s updates cond t = .panic w := by
    unfold updGate Exec.updatePlan
    rw [show Exec.upsOf t updates = upsOf t updates from rfl]
    cases hv : validateUpdates t updates with
    | some k => simp only
    | none =>
      simp only
      by_cases hm : condMissing t cond = true
      · simp only [hm, if_true]
      have hmf : condMissing t cond = false := by simpa using hm
      have hw := MsiProofs.C09.loadRows_width s t rows hl
      have hp := updPlan_spec t s.pool cond (upsOf t updates) rows []
        fun r hr => MsiProofs.SelectTree.condVal_total t s.pool cond hmf r (hw r hr)
      simp only [hmf, Bool.false_eq_true, if_false, hl, Res.bind_ok, hp, dupKeys_eq t s.pool cond _ rows _ hp]
      cases touchesKeys t (upsOf t updates) &&
          !decide ((((rows.map (rowValues s.pool)).map (updRow t cond (upsOf t updates))).map (keyV t)).Nodup) with
      | true => simp only [if_true]
      | false =>
        simp only [Bool.false_eq_true, if_false]
        cases hu : updApply (upsOf t updates) s.pool rows _ [] with
        | err e => exact absurd hu (MsiProofs.LoopSpecs.updApply_ne_err _ rows s.pool _ [] e)
        | panic w => exact Or.inr ⟨w, rfl⟩
        | ok x => exact Or.inl ⟨_, rfl⟩
  rw [tableView_ok hl, Exec.updateExec_eq]
  cases hg : updGate t (rows.map (rowValues s.pool)) updates cond with
  | some k => rw [hg] at hplan; exact reply_err ht hplan
  | none =>
    rw [hg] at hplan
    exact reply_ok ht (fun _ _ hp => MsiProofs.GlobalInvUpd.updatePlan_store_ok hI ht hp) hplan

end MsiProofs.UpdateGate
