import MsiModel.Codec
/-
UTF-8 round trip of the model's decoder: the WHATWG decoder with replacement
(`utf8DecodeLossy`, the model of `Encoding::decode_without_bom_handling` for UTF-8) reads the
UTF-8 encoding of any text back as that text.  Hence every string is expressible under the UTF-8
code page — the default code page of a package.
-/
namespace MsiProofs.Utf8Codec
open MsiModel MsiModel.Codec

theorem char_valid (c : Char) : c.val.toNat < 0xD800 ∨ (0xDFFF < c.val.toNat ∧ c.val.toNat < 0x110000) :=
  c.valid

/-! The decoder's step on a well-formed sequence of one to four bytes, the bytes given by their
payload digits (`q` the lead byte's, then six bits each). -/
section steps
variable (rest : List UInt8) (acc : List Char) (fuel : Nat)

theorem decode_one (v : Nat) (hv : v < 0x80) :
    utf8DecodeLossy (fuel + 1) (UInt8.ofNat v :: rest) acc = utf8DecodeLossy fuel rest (Char.ofNat v :: acc) := by
  simp only [utf8DecodeLossy, UInt8.toNat_ofNat_of_lt' (show v < 256 by omega), hv, if_true]

theorem decode_two (q r : Nat) (hq : 2 ≤ q) (hq' : q < 32) (hr : r < 64) :
    utf8DecodeLossy (fuel + 1) (UInt8.ofNat (q + 0xc0) :: UInt8.ofNat (r + 0x80) :: rest) acc =
      utf8DecodeLossy fuel rest (Char.ofNat (q * 64 + r) :: acc) := by
  have c1 : ¬ q + 0xc0 < 0x80 := by omega
  have c2 : ¬ q + 0xc0 < 0xC2 := by omega
  have c3 : q + 0xc0 < 0xE0 := by omega
  have c4 : 0x80 ≤ r + 0x80 ∧ r + 0x80 < 0xC0 := by omega
  simp only [utf8DecodeLossy, UInt8.toNat_ofNat_of_lt' (show q + 0xc0 < 256 by omega),
    UInt8.toNat_ofNat_of_lt' (show r + 0x80 < 256 by omega), c1, c2, c3, c4, if_true, if_false, and_self,
    Nat.add_sub_cancel]

theorem decode_three (q m r : Nat) (hq : q < 16) (hm : m < 64) (hr : r < 64)
    (hlow : q = 0 → 32 ≤ m) (hsur : q = 13 → m < 32) :
    utf8DecodeLossy (fuel + 1)
        (UInt8.ofNat (q + 0xe0) :: UInt8.ofNat (m + 0x80) :: UInt8.ofNat (r + 0x80) :: rest) acc =
      utf8DecodeLossy fuel rest (Char.ofNat (q * 4096 + m * 64 + r) :: acc) := by
  have c1 : ¬ q + 0xe0 < 0x80 := by omega
  have c2 : ¬ q + 0xe0 < 0xC2 := by omega
  have c3 : ¬ q + 0xe0 < 0xE0 := by omega
  have c4 : q + 0xe0 < 0xF0 := by omega
  have c5 : (if q + 0xe0 = 0xE0 then 0xA0 else 0x80) ≤ m + 0x80 ∧
      m + 0x80 < (if q + 0xe0 = 0xED then 0xA0 else 0xC0) := by
    constructor <;> split <;> omega
  have c6 : 0x80 ≤ r + 0x80 ∧ r + 0x80 < 0xC0 := by omega
  simp only [utf8DecodeLossy, UInt8.toNat_ofNat_of_lt' (show q + 0xe0 < 256 by omega),
    UInt8.toNat_ofNat_of_lt' (show m + 0x80 < 256 by omega),
    UInt8.toNat_ofNat_of_lt' (show r + 0x80 < 256 by omega), c1, c2, c3, c4, c5, c6, if_true, if_false,
    and_self, Nat.add_sub_cancel]

theorem decode_four (q m n r : Nat) (hq : q < 5) (hm : m < 64) (hn : n < 64) (hr : r < 64)
    (hlow : q = 0 → 16 ≤ m) (hmax : q = 4 → m < 16) :
    utf8DecodeLossy (fuel + 1)
        (UInt8.ofNat (q + 0xf0) :: UInt8.ofNat (m + 0x80) :: UInt8.ofNat (n + 0x80) ::
          UInt8.ofNat (r + 0x80) :: rest) acc =
      utf8DecodeLossy fuel rest (Char.ofNat (q * 262144 + m * 4096 + n * 64 + r) :: acc) := by
  have c1 : ¬ q + 0xf0 < 0x80 := by omega
  have c2 : ¬ q + 0xf0 < 0xC2 := by omega
  have c3 : ¬ q + 0xf0 < 0xE0 := by omega
  have c4 : ¬ q + 0xf0 < 0xF0 := by omega
  have c4' : q + 0xf0 < 0xF5 := by omega
  have c5 : (if q + 0xf0 = 0xF0 then 0x90 else 0x80) ≤ m + 0x80 ∧
      m + 0x80 < (if q + 0xf0 = 0xF4 then 0x90 else 0xC0) := by
    constructor <;> split <;> omega
  have c6 : 0x80 ≤ n + 0x80 ∧ n + 0x80 < 0xC0 := by omega
  have c7 : 0x80 ≤ r + 0x80 ∧ r + 0x80 < 0xC0 := by omega
  simp only [utf8DecodeLossy, UInt8.toNat_ofNat_of_lt' (show q + 0xf0 < 256 by omega),
    UInt8.toNat_ofNat_of_lt' (show m + 0x80 < 256 by omega),
    UInt8.toNat_ofNat_of_lt' (show n + 0x80 < 256 by omega),
    UInt8.toNat_ofNat_of_lt' (show r + 0x80 < 256 by omega), c1, c2, c3, c4, c4', c5, c6, c7, if_true,
    if_false, and_self, Nat.add_sub_cancel]

end steps

theorem digits (v a b : Nat) : v / a % b * a + v % a = v % (a * b) := by
  rw [Nat.mod_mul, Nat.add_comm, Nat.mul_comm]

theorem lossy_char (c : Char) (rest : List UInt8) (acc : List Char) (fuel : Nat) :
    utf8DecodeLossy (fuel + 1) (String.utf8EncodeChar c ++ rest) acc = utf8DecodeLossy fuel rest (c :: acc) := by
  have hv := char_valid c
  have hc : Char.ofNat c.val.toNat = c := Char.ofNat_toNat c
  unfold String.utf8EncodeChar
  simp only
  generalize c.val.toNat = v at hv hc
  split
  · rw [List.cons_append, List.nil_append, decode_one _ _ _ v (by omega), hc]
  split
  · have hv : v / 64 % 0x20 * 64 + v % 0x40 = v := by
      rw [digits]; exact Nat.mod_eq_of_lt (by omega)
    rw [List.cons_append, List.cons_append, List.nil_append,
      decode_two _ _ _ _ _ (by omega) (Nat.mod_lt _ (by decide)) (Nat.mod_lt _ (by decide)), hv, hc]
  split
  · have hv : v / 4096 % 0x10 * 4096 + v / 64 % 0x40 * 64 + v % 0x40 = v := by
      simp only [Nat.add_assoc, digits, Nat.reduceMul]; exact Nat.mod_eq_of_lt (by omega)
    have h : (v / 4096 % 0x10 = 0 → 32 ≤ v / 64 % 0x40) ∧ (v / 4096 % 0x10 = 13 → v / 64 % 0x40 < 32) := by
      omega
    rw [List.cons_append, List.cons_append, List.cons_append, List.nil_append,
      decode_three _ _ _ _ _ _ (Nat.mod_lt _ (by decide)) (Nat.mod_lt _ (by decide)) (Nat.mod_lt _ (by decide))
        h.1 h.2, hv, hc]
  · have hv : v / 262144 % 0x08 * 262144 + v / 4096 % 0x40 * 4096 + v / 64 % 0x40 * 64 + v % 0x40 = v := by
      simp only [Nat.add_assoc, digits, Nat.reduceMul]; exact Nat.mod_eq_of_lt (by omega)
    have h : v / 262144 % 0x08 < 5 ∧ (v / 262144 % 0x08 = 0 → 16 ≤ v / 4096 % 0x40) ∧
        (v / 262144 % 0x08 = 4 → v / 4096 % 0x40 < 16) := by omega
    rw [List.cons_append, List.cons_append, List.cons_append, List.cons_append, List.nil_append,
      decode_four _ _ _ _ _ _ _ h.1 (Nat.mod_lt _ (by decide)) (Nat.mod_lt _ (by decide))
        (Nat.mod_lt _ (by decide)) h.2.1 h.2.2, hv, hc]

/-- **the model's UTF-8 decoder reads any encoded text back** -/
theorem lossy_roundtrip (s : List Char) : ∀ (fuel : Nat) (acc : List Char), s.length < fuel →
    utf8DecodeLossy fuel (s.flatMap String.utf8EncodeChar) acc = acc.reverse ++ s := by
  induction s with
  | nil => intro fuel acc _; cases fuel <;> simp [utf8DecodeLossy]
  | cons c cs ih =>
    intro fuel acc hf
    cases fuel with
    | zero => simp at hf
    | succ f =>
      simp only [List.flatMap_cons]
      rw [lossy_char, ih f (c :: acc) (by simpa using hf)]
      simp

end MsiProofs.Utf8Codec
