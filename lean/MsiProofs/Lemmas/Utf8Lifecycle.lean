import MsiProofs.Lemmas.AsciiLifecycle
import MsiProofs.Lemmas.Utf8Codec
/-
The `Savable` hypothesis of the lifecycle theorem, discharged for ANY text under the UTF-8 code
page (the default code page of a package): while the database code page stays UTF-8, every string
is expressible — the model's WHATWG decoder reads every UTF-8 encoding back (`Utf8Codec`) — so the
pool of every reachable state can be written and read back, and packages holding arbitrary Unicode
text reopen as they were.  (The only bound is the format's: an encoded string is shorter than
4 GiB.)
-/
namespace MsiProofs.Utf8Lifecycle
open MsiModel MsiModel.Bytes MsiModel.Pkg MsiProofs.PoolText MsiProofs.Lifecycle MsiProofs.SaveOpen
open MsiProofs.CreateTable MsiProofs.FullHistory MsiProofs.Created MsiProofs.CatalogSync MsiProofs.AsciiLifecycle
open MsiProofs.Utf8Codec MsiProofs.PoolCodec

def IsUtf8 (cp : Nat) : Prop := some cp = Codec.utf8Name

def utf8Bytes (s : List Char) : Bytes := s.flatMap String.utf8EncodeChar

/-- text whose UTF-8 encoding is shorter than 4 GiB (what a pool entry's length field holds) -/
def Utf8Short (s : List Char) : Prop := (utf8Bytes s).length < 4294967296

theorem utf8Short_nil : Utf8Short [] := by simp [Utf8Short, utf8Bytes]

theorem utf8_supported (cp : Nat) (h : IsUtf8 cp) : cp < Gen.cpVariants.length := by
  unfold IsUtf8 Codec.utf8Name at h
  have : Gen.cpVariants.idxOf? "Utf8" = some cp := h.symm
  exact (List.idxOf?_eq_some_iff.mp this).1

/-- a character takes one to four bytes -/
theorem utf8Bytes_bounds (s : List Char) : s.length ≤ (utf8Bytes s).length ∧ (utf8Bytes s).length ≤ 4 * s.length := by
  induction s with
  | nil => exact ⟨Nat.le_refl _, Nat.le_refl _⟩
  | cons c cs ih =>
    simp only [utf8Bytes, List.flatMap_cons, List.length_append, List.length_cons, String.length_utf8EncodeChar] at ih ⊢
    have := Char.utf8Size_pos c
    have := Char.utf8Size_le_four c
    omega

/-- **every text round-trips under the UTF-8 code page** -/
theorem utf8_roundtrip (cp : Nat) (h : IsUtf8 cp) (s : List Char) :
    Codec.encode cp s = some (utf8Bytes s) ∧ Codec.decode cp (utf8Bytes s) = some s := by
  unfold IsUtf8 at h
  unfold Codec.encode Codec.decode
  simp only [h, if_true]
  refine ⟨rfl, ?_⟩
  have := lossy_roundtrip s ((utf8Bytes s).length + 1) [] (by have := (utf8Bytes_bounds s).1; omega)
  simp only [List.reverse_nil, List.nil_append] at this
  unfold utf8Bytes at this ⊢
  rw [this]

theorem poolOk_utf8 (p : Pool) (h : PT IsUtf8 Utf8Short p) : PoolOk p utf8Bytes where
  cp := utf8_supported p.codepage h.1
  enc := fun e _ => (utf8_roundtrip p.codepage h.1 e.1).1
  dec := fun e _ => (utf8_roundtrip p.codepage h.1 e.1).2
  fits := fun e he => by
    obtain ⟨h1, h2, h3⟩ := h.2 e he
    refine ⟨h1, h2, ?_⟩
    intro h0
    have := (utf8Bytes_bounds e.1).1
    exact h3 (List.eq_nil_of_length_eq_zero (by omega))

theorem utf8Short_of_ascii (s : List Char) (h : AsciiShort s) : Utf8Short s := by
  unfold Utf8Short utf8Bytes
  rw [MsiProofs.AsciiCodec.flatMap_utf8_ascii s h.1, MsiProofs.AsciiCodec.asciiBytes_length]
  exact h.2

/-- the calls covered: any texts (short when encoded), the code page stays UTF-8, and `Savable` at
a save is reduced to the summary's well-formedness -/
def StepOkU (s : Pkg) (st : Step) : Prop :=
  StepA IsUtf8 Utf8Short st ∧
  match st with
  | .save => (flush s).2 = .ok () ∧ MsiProofs.PropSetCodec.WF s.summary ∧ s.summary.fmtid = Gen.summaryFmtid
  | st => st.Admissible s

def AdmissibleU : Pkg → List Step → Prop
  | _, [] => True
  | s, st :: rest => StepOkU s st ∧ AdmissibleU (st.run s) rest

/-- **every reachable state keeps every invariant and a pool fit to be written under UTF-8** -/
theorem historyU (slack : Nat → Nat) (steps : List Step) : ∀ (s : Pkg) (tabs : List Table),
    Full slack s tabs → NoOrphans s → PT IsUtf8 Utf8Short s.pool → AdmissibleU s steps →
    Admissible s steps ∧ PT IsUtf8 Utf8Short (runAll s steps).pool ∧
    ∃ tabs', Full slack (runAll s steps) tabs' ∧ NoOrphans (runAll s steps) :=
  history_pt IsUtf8 Utf8Short utf8Short_nil (Ok := StepOkU) (fun _ _ _ h => h) (fun _ _ h => h.1)
    (fun _ _ hp h => admissible_of_ok (poolOk_utf8 _ hp) h.2) slack steps

/-- **packages holding any Unicode text under the UTF-8 code page reopen as they were, with no
assumption on the pool**: from the state `create` builds with a UTF-8 summary, after any sequence
of calls (statements, create_table, drop_table, streams, signature, summary, saves,
close-and-reopen; `set_database_codepage` only to UTF-8) with arbitrary texts, a successful save
of a state whose summary is well-formed can be reopened, and the reopened package has the same
container, summary, string pool, table definitions and rows -/
theorem created_utf8_reopens (ptype : Nat) (summary : PropSet) (hcp : IsUtf8 summary.codepage)
    (s0 : Pkg)
    (hc : createTable (base ptype summary) Gen.nameValidation.toList Catalog.validationColumns = (s0, .ok ()))
    (steps : List Step) (ha : AdmissibleU s0 steps)
    (hwf : MsiProofs.PropSetCodec.WF (runAll s0 steps).summary) (hfmt : (runAll s0 steps).summary.fmtid = Gen.summaryFmtid)
    (s1 : Pkg) (hf : finish (runAll s0 steps) = (s1, .ok ())) :
    ∃ s2, open_ (some s1.ptype) s1.cont = .ok s2 ∧
      s2.cont = s1.cont ∧ s2.summary = s1.summary ∧ s2.pool = s1.pool ∧ s2.tables = s1.tables ∧
      (∀ t, s2.loadRows t = s1.loadRows t) := by
  obtain ⟨hF0, hN0⟩ := created_full ptype summary s0 hc
  obtain ⟨hadm, hp, -⟩ := historyU _ steps s0 _ hF0 hN0 (created_pt IsUtf8 Utf8Short utf8Short_nil utf8Short_of_ascii ptype summary hcp s0 hc) ha
  exact created_reopens ptype summary s0 hc steps hadm _ ⟨hwf, hfmt, poolOk_utf8 _ hp⟩ s1 hf

end MsiProofs.Utf8Lifecycle
