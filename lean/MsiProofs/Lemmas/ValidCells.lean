import MsiProofs.Lemmas.Relational
/-
Stored cells stay valid (property C05, the part beyond keys): in every table, every row the API
reports has one value per column, and every value is the stored form of a value its column
declares valid (type, nullability, integer range, category, enumeration, maximum length) — the
stored form of "" being null, the one value the file format has for both.  Every insert, update
and delete, accepted or refused, on any table, keeps this for all tables.
-/
namespace MsiProofs.ValidCells
open MsiModel MsiModel.Bytes MsiModel.Pkg MsiProofs.GlobalInv MsiProofs.SortedInv MsiProofs.Frame
open MsiProofs.Refine MsiProofs.RefineUpdate MsiProofs.Relational MsiProofs.SaveOpen

/-- `v` is what the library stores for some value the column declares valid -/
def StoredOk (c : Column) (v : Value) : Prop := ∃ v0, v = storable v0 ∧ c.isValidValue v0 = true

/-- one value per column, each valid for its column -/
def RowValid (t : Table) (row : List Value) : Prop :=
  row.length = t.columns.length ∧ ∀ (i : Nat) (c : Column), t.columns[i]? = some c → ∃ v : Value, row[i]? = some v ∧ StoredOk c v

def ValidAll (s : Pkg) : Prop := ∀ t ∈ s.tables, ∀ row ∈ tableView s t, RowValid t row

theorem rowValid_of_checked (t : Table) (r : List Value) (hlen : r.length = t.columns.length)
    (hval : ∀ x ∈ t.columns.zip r, x.1.isValidValue x.2 = true) : RowValid t (r.map storable) := by
  refine ⟨by simp [hlen], ?_⟩
  intro i c hc
  have hi : i < t.columns.length := (List.getElem?_eq_some_iff.mp hc).1
  have hir : i < r.length := by omega
  refine ⟨storable r[i], by simp [hir], r[i], rfl, ?_⟩
  have hmem : (c, r[i]) ∈ t.columns.zip r := by
    have h1 : (t.columns.zip r)[i]? = some (c, r[i]) := by
      rw [List.getElem?_zip_eq_some]
      exact ⟨hc, by simp [hir]⟩
    exact List.mem_of_getElem? h1
  exact hval _ hmem

theorem rowValid_set (t : Table) (row : List Value) (h : RowValid t row) (i : Nat) (col : Column) (v : Value)
    (hc : t.columns[i]? = some col) (hv : StoredOk col v) : RowValid t (row.set i v) := by
  refine ⟨by simp [h.1], ?_⟩
  intro j c hj
  rw [List.getElem?_set]
  by_cases hij : i = j
  · subst hij
    have hi : i < row.length := by rw [h.1]; exact (List.getElem?_eq_some_iff.mp hc).1
    rw [hc] at hj
    cases hj
    exact ⟨v, by simp [hi], hv⟩
  · simp only [hij, if_false]
    exact h.2 j c hj

theorem rowValid_applyUps (t : Table) (ups : List (Nat × Value)) (hus : UpsOk t.columns ups) :
    ∀ row, RowValid t row → RowValid t (applyUps ups row) := by
  induction ups with
  | nil => intro row h; exact h
  | cons u rest ih =>
    intro row h
    obtain ⟨col, v0, hc, hv, hok⟩ := hus u (by simp)
    have h1 := rowValid_set t row h u.1 col u.2 hc ⟨v0, hv, hok⟩
    have := ih (fun x hx => hus x (by simp [hx])) _ h1
    simpa [applyUps] using this

/-- **one statement, accepted or refused, keeps every cell of every table valid** -/
theorem op_valid (slack : Nat → Nat) (s : Pkg) (hI : Inv slack s) (hS : SortedAll s) (hV : ValidAll s)
    (op : MsiProofs.GlobalInvUpd.Op) : ValidAll (op.run s) := by
  have hR := op_refines slack s hI hS op
  by_cases hr : reply s op = .ok ()
  · obtain ⟨t, hf, hspec⟩ := hR.accepted hr
    have htm := MsiProofs.Synced.findTable_mem hf
    have htn := findTable_name hf
    obtain ⟨existing, hl⟩ := hI.loads t htm
    intro x hx row hrow
    rw [hR.tables] at hx
    by_cases hxt : x.name = target op
    · -- the target table (names are unique: it is `t`)
      have hxeq : x = t := by
        have h1 : key x.streamName = key t.streamName := by
          unfold Table.streamName; rw [hxt, htn]
        exact eq_of_same_stream s.tables hI.distinct hx htm h1
      subst hxeq
      cases op with
      | insert tn rows =>
        have h : insertExec s tn rows = ((insertExec s tn rows).1, .ok ()) := by rw [← hr]; rfl
        obtain ⟨_, _, _, _, hlen, hval, -⟩ := insertExec_ok_inv h hf hl
        have hm := hspec.1.mem_iff.mp hrow
        rw [List.mem_append] at hm
        rcases hm with hm | hm
        · exact hV x hx row hm
        · obtain ⟨r, hr', rfl⟩ := List.mem_map.mp hm
          exact rowValid_of_checked x r (hlen r hr') (hval r hr')
      | delete tn cond =>
        have hspec' : tableView ((GlobalInvUpd.Op.delete tn cond).run s) x =
            (tableView s x).filter fun vals => condV x cond vals == .ok false := hspec
        rw [hspec'] at hrow
        exact hV x hx row (List.mem_filter.mp hrow).1
      | update tn ups cond =>
        have h : updateExec s tn ups cond = ((updateExec s tn ups cond).1, .ok ()) := by rw [← hr]; rfl
        obtain ⟨_, _, _, _, hv, -⟩ := updateExec_ok_inv h hf hl
        obtain ⟨husok, -⟩ := upsOf_ok x ups hv
        have hm := hspec.1.mem_iff.mp hrow
        obtain ⟨old, hold, rfl⟩ := List.mem_map.mp hm
        unfold updRow
        split
        · exact rowValid_applyUps x _ husok old (hV x hx old hold)
        · exact hV x hx old hold
    · rw [hR.others x hx hxt] at hrow
      exact hV x hx row hrow
  · rw [hR.refused hr]; exact hV

/-- **every history of inserts, updates and deletes — on any tables, accepted or refused — keeps
every stored cell valid for its column** -/
theorem history_valid (slack : Nat → Nat) (ops : List MsiProofs.GlobalInvUpd.Op) : ∀ (s : Pkg),
    Inv slack s → SortedAll s → ValidAll s → ValidAll (ops.foldl MsiProofs.GlobalInvUpd.Op.run s) := by
  intro s hI hS hV
  exact (foldl_keeps (P := fun s => (Inv slack s ∧ SortedAll s) ∧ ValidAll s)
    (fun s op h => ⟨⟨MsiProofs.GlobalInvUpd.op_inv slack s op h.1.1, MsiProofs.SortUpd.op_sorted slack s op h.1.1 h.1.2⟩,
      op_valid slack s h.1.1 h.1.2 h.2 op⟩) ops s ⟨⟨hI, hS⟩, hV⟩).2

end MsiProofs.ValidCells
