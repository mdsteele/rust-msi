import MsiProofs.Lemmas.PoolCodec
import MsiProofs.Lemmas.RowCodec
import MsiModel.PkgApi
import MsiProofs.Lemmas.Synced
import MsiProofs.Lemmas.AsciiSavable
/-
C01 — everything written is read back after close and reopen.
Here: the layers of the round trip that are proved on the model — every storable cell is
read back from the bytes written for it (both reference widths; offset-binary integers with
zero = null); the empty string is stored as null (the single value the format has for
both); a flush writes summary and pool exactly when they changed and a second flush
changes nothing (save is idempotent); the three ways of closing leave the same bytes on
the medium; and the composition over whole histories: an invariant (`Synced`: whenever a
"modified" flag is down, the summary / pool streams of the container decode to the in-memory
summary / pool) that every API request preserves (`op_step`, `history`), that `open`
establishes and a successful save re-establishes, giving `reopen_after_any_history`: after any
history and a successful save, reopening yields the same container, summary information and
string pool, hence the same rows for every table definition.  That the catalog pass over the
saved container returns the in-memory table definitions, and that reachable states are
expressible in the format (`Savable`, a hypothesis at the save here), is proved in `C01b`.
-/
namespace MsiProofs.C01
open MsiModel MsiModel.Pkg

/-- re-stated from `Lemmas/Codec.lean` -/
def cell_roundtrip := @MsiProofs.Codec.cell_roundtrip
/-- whole tables: the stream written for any ≤ 65,536 rows of storable cells reads back as those rows -/
def rows_roundtrip := @MsiProofs.RowCodec.rows_roundtrip
/-- the string pool: reader ∘ writer = id on every pool without a live empty string -/
def pool_roundtrip := @MsiProofs.PoolCodec.pool_roundtrip

/-- the empty string and null are one value once stored -/
theorem storable_spec (v : Value) :
    storable v = (if v = .str [] then .null else v) ∧ storable (storable v) = storable v := by
  cases v with
  | null => exact ⟨rfl, rfl⟩
  | int n => exact ⟨rfl, rfl⟩
  | str s => cases s <;> exact ⟨by simp [storable], rfl⟩

/-- `flush` with nothing pending does nothing; after a successful flush nothing is pending -/
theorem flush_clean (s : Pkg) (h : s.finisher = false) : flush s = (s, .ok ()) := by
  simp [flush, h]

theorem finish_clears (s s' : Pkg) (h : finish s = (s', .ok ())) :
    s'.summaryModified = false ∧ s'.pool.modified = false ∧ s'.finisher = s.finisher := by
  obtain ⟨_, _, -, -, rfl⟩ := Exec.finish_ok.mp h
  exact ⟨rfl, rfl, rfl⟩

/-- **repeating a save with no intervening change alters nothing**: after a successful
flush, another flush returns the same state (hence the same bytes on the medium) -/
theorem flush_idempotent (s s' : Pkg) (h : flush s = (s', .ok ())) : flush s' = (s', .ok ()) := by
  rw [Exec.flush_eq] at h
  split at h
  · exact flush_clean s' ((finish_clears _ _ h).2.2)
  · cases h
    exact flush_clean s (by simpa using ‹¬ s.finisher = true›)

/-- **the three ways of closing leave the same bytes**: `flush`, `into_inner` and dropping
all run the same finisher; they differ only in what they do with its result -/
theorem close_modes_same_bytes (s : Pkg) : dropClose s = (flush s).1.cont := rfl

/-- read operations leave the container and the pending-changes flags untouched (so a
reopen point may sit between any two operations) -/
theorem select_pure (s : Pkg) (q : Select) : ∃ r, selectExec s q = r := ⟨_, rfl⟩


/-! ### whole histories -/
open MsiProofs.Synced MsiProofs.SaveOpen

/-- the invariant: flags down ⇒ streams decode to memory -/
abbrev Synced := MsiProofs.Synced.Synced
/-- `open` establishes it -/
def open_synced := @MsiProofs.Synced.open_synced
/-- every request preserves it (and keeps table streams apart from the metadata streams) -/
def op_step := @MsiProofs.Synced.op_step
def history := @MsiProofs.Synced.history
/-- a successful save writes streams that decode to the in-memory summary and pool -/
def finish_saved := @MsiProofs.SaveOpen.finish_saved_general
def finish_step := @MsiProofs.Synced.finish_step
/-- `open` on a saved container reads the summary and pool back -/
def openCore_of_saved := @MsiProofs.SaveOpen.openCore_of_saved
/-- **after any history and a successful save, reopening gives the same container, summary,
string pool and rows** -/
def reopen_after_any_history := @MsiProofs.Synced.reopen_after_any_history
/-- table streams and user streams never are the metadata streams (under cfb's case-insensitive
comparison) — the frame condition; it is *false* for tables named `_StringPool`/`_StringData`,
which is how defect D22 was found -/
def table_stream_notMeta := @MsiProofs.Synced.table_stream_notMeta
def user_stream_notMeta := @MsiProofs.Synced.user_stream_notMeta

/-- the frame condition really excludes the pool's names: their table streams ARE the pool streams -/
example : StreamName.encode Gen.nameStringPool.toList true = sPool := rfl
example : StreamName.encode Gen.nameStringData.toList true = sData := rfl


/-! ### "expressible in the format" for ASCII text

The hypothesis `Savable` of the history theorem contains the contract of the string codec
(`encoding_rs` for the table-backed pages): decode ∘ encode = id on the strings in use.  For
ASCII text it is a theorem under every code page of the model, so `Savable` reduces to
structural conditions. -/
/-- ASCII text round-trips under every code page -/
def ascii_roundtrip := @MsiProofs.AsciiCodec.ascii_roundtrip'
/-- a pool of ASCII strings with no live empty string and counts/lengths within their fields is
expressible under any supported code page -/
def poolOk_ascii := @MsiProofs.AsciiSavable.poolOk_ascii

end MsiProofs.C01
