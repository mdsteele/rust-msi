import MsiProofs.Props.C01
import MsiProofs.Lemmas.EndToEnd
import MsiProofs.Lemmas.Lifecycle
import MsiProofs.Lemmas.AsciiLifecycle
import MsiProofs.Lemmas.Utf8Lifecycle
import MsiProofs.Lemmas.Lifecycle2
import MsiProofs.Lemmas.ClosedLifecycle
/-
C01, end to end on the model — from any state satisfying the package invariants (reference counts
exact up to a slack, keys ascending, metadata streams in sync, catalog tables in sync with the table
list), after any history of inserts, updates and deletes on user tables (accepted or refused) and a
successful save, reopening the container gives a package with the same container, summary
information, string pool AND table definitions, in which every table reads the same rows.
Then the same over the whole life of a package made with `Package::create` — any sequence of calls
of the mutating API, with the hypotheses on the text discharged for ASCII, for UTF-8, and with every
hypothesis discharged (`create_closed`) — and demonstrations that these theorems speak about
histories that exist (`demo_*`).
-/
namespace MsiProofs.C01
open MsiModel MsiModel.Pkg

abbrev AllInv := MsiProofs.EndToEnd.AllInv
/-- with the catalog in sync, the catalog pass of `open` returns the in-memory table list -/
def synced_open := @MsiProofs.CatalogSync.synced_open
/-- reopening a saved, catalog-synced package gives the same container, summary, pool and tables -/
def reopen_same_tables := @MsiProofs.CatalogSync.reopen_same_tables
/-- every statement on a user table keeps all invariants -/
def op_allInv := @MsiProofs.EndToEnd.op_allInv
def history_allInv := @MsiProofs.EndToEnd.history_allInv
/-- **save and reopen after any history of data manipulation: the same package** -/
def reopen_after_history := @MsiProofs.EndToEnd.reopen_after_history
/-- the frame condition: other tables read the same rows with the same values -/
def op_kept := @MsiProofs.Frame.op_kept
/-- a successful save keeps the catalog in sync -/
def finish_catalogSynced := @MsiProofs.CatalogSync.finish_catalogSynced


/-! ### the whole life of a package made with the library -/

abbrev Full := MsiProofs.CreateTable.Full
abbrev NoOrphans := MsiProofs.FullHistory.NoOrphans
abbrev Step := MsiProofs.Lifecycle.Step
abbrev Admissible := MsiProofs.Lifecycle.Admissible
abbrev runAll := MsiProofs.Lifecycle.runAll

/-- an accepted `create_table` keeps every invariant and extends the catalog by the new definition -/
def createTable_full := @MsiProofs.CreateTable.createTable_full
/-- an accepted `drop_table` keeps every invariant and removes the definition from the catalog -/
def dropTable_full := @MsiProofs.DropTable.dropTable_full
/-- stream calls, signature removal, summary setters and the code-page setter keep every invariant -/
def full_transfer := @MsiProofs.OtherCalls.full_transfer
/-- the state `Package::create` builds satisfies every invariant -/
def created_full := @MsiProofs.Created.created_full
/-- a successful save keeps every invariant -/
def finish_core := @MsiProofs.FullHistory.finish_core
/-- one API call (statement, `create_table`, save) keeps every invariant -/
def step_full := @MsiProofs.Lifecycle.step_full
/-- `save` then close-and-reopen is admissible: sessions chain -/
def saved_after_save := @MsiProofs.Lifecycle.saved_after_save
/-- every state reachable from a state satisfying the invariants satisfies them -/
def history_full := @MsiProofs.Lifecycle.history_full
/-- `create` = base state + `create_table("_Validation")` + flush -/
def create_unfold := @MsiProofs.Lifecycle.create_unfold
/-- **every package made with `Package::create` reopens as it was**, after any admissible history -/
def create_reopens := @MsiProofs.Lifecycle.create_reopens
def created_reopens := @MsiProofs.Lifecycle.created_reopens

/-- **the `Savable` hypothesis discharged for ASCII text**: with ASCII texts in every call, only the
summary's well-formedness is assumed at the final save -/
def created_ascii_reopens := @MsiProofs.AsciiLifecycle.created_ascii_reopens
/-- every reachable state keeps a pool that can be written (counts below 65,536, no live empty
entry, texts satisfying the predicate the inputs satisfy, a supported code page) -/
def historyA := @MsiProofs.AsciiLifecycle.historyA
def step_pt := @MsiProofs.AsciiLifecycle.step_pt

/-- **the model's UTF-8 decoder (WHATWG, with replacement) reads the encoding of any text back** -/
def utf8_lossy_roundtrip := @MsiProofs.Utf8Codec.lossy_roundtrip
/-- every text round-trips under the UTF-8 code page -/
def utf8_roundtrip := @MsiProofs.Utf8Lifecycle.utf8_roundtrip
/-- a pool of any texts is expressible under UTF-8 (no live empty entry, counts and lengths in range) -/
def poolOk_utf8 := @MsiProofs.Utf8Lifecycle.poolOk_utf8
/-- every reachable state keeps every invariant and a pool fit to be written under UTF-8 -/
def historyU := @MsiProofs.Utf8Lifecycle.historyU
/-- **the `Savable` hypothesis discharged for ANY Unicode text under the UTF-8 code page** (the
default): only the summary's well-formedness is assumed at a save -/
def created_utf8_reopens := @MsiProofs.Utf8Lifecycle.created_utf8_reopens

/-- **every `create_table` call that returns is covered**: `create_table` is atomic, so the
lifecycle theorem needs no restriction on it beyond "no capacity panic" -/
def created_reopens_all := @MsiProofs.Lifecycle2.created_reopens_all
def history_all := @MsiProofs.Lifecycle2.history_all

/-- the package `create` returns -/
def demoPkg : Pkg := match create Profile.dev 0 with | .ok s => s | _ => default

def demoCols : List Column :=
  [{ Catalog.mkCol "Id" .int32 with isPrimaryKey := true }, { Catalog.mkCol "Text" (.str 20) with isNullable := true }]

/-! The demonstrations below run two short histories on `demoPkg`.  What they need from running
the model is evaluated by the kernel once, in `demo_eval`: inside one evaluation the states the
two histories share (`create`, the `create_table`) are computed once. -/

/- The states are spelt as nested `Step.run`s, the form `Admissible` unfolds to: with `runAll`
the kernel would have to run the model again to see that the two forms agree. -/
open MsiProofs.Lifecycle in
/-- the package after `create_table("Demo")` -/
abbrev demo1 : Pkg := Step.run demoPkg (.create "Demo".toList demoCols)
open MsiProofs.Lifecycle in
/-- first history: two rows, a refused duplicate, delete everything -/
abbrev demo4 : Pkg :=
  Step.run (Step.run (Step.run demo1
    (.dml (.insert "Demo".toList [[.int 7, .str "seven".toList], [.int 8, .null]])))
    (.dml (.insert "Demo".toList [[.int 7, .null]])))
    (.dml (.delete "Demo".toList none))
open MsiProofs.Lifecycle in
/-- second history: non-ASCII text, a refused duplicate, the author set, a save -/
abbrev demo5 : Pkg :=
  Step.run (Step.run (Step.run (Step.run demo1
    (.dml (.insert "Demo".toList [[.int 7, .str "s\u00e9ven \u65e5\u672c".toList], [.int 8, .null]])))
    (.dml (.insert "Demo".toList [[.int 7, .null]])))
    (.setSummary (MsiProofs.SummaryInv.SumOp.apply (.str Gen.propAuthor "J\u00fcrgen".toList))))
    .save

open MsiProofs.AsciiLifecycle in
theorem demo_eval :
    (create Profile.dev 0).isOk = true ∧
    (createTable demoPkg "Demo".toList demoCols).2 = .ok () ∧
    (insertExec { (createTable demoPkg "Demo".toList demoCols).1 with finisher := true } "Demo".toList
      [[.int 7, .str "seven".toList], [.int 8, .null]]).2 = .ok () ∧
    (dropTable demo4 "Demo".toList).2 = .ok () ∧
    (MsiProofs.Lifecycle.Step.run demo4 (.drop "Demo".toList)).findTable "Demo".toList = none ∧
    rowsAsciiB (catalogRowsColumns "Demo".toList demoCols) = true ∧ rowsAsciiB [[.str "Demo".toList]] = true ∧
    rowsAsciiB (catalogRowsValidation "Demo".toList demoCols) = true ∧
    demo5.summaryModified = false ∧ demo5.pool.modified = false := by
  decide +kernel

/-- non-vacuity: `Package::create` succeeds (kernel evaluation of the model) -/
theorem create_succeeds : (create Profile.dev 0).isOk = true := demo_eval.1

theorem demo_created : create Profile.dev 0 = .ok demoPkg := by
  have h := create_succeeds
  unfold demoPkg
  cases hc : create Profile.dev 0 with
  | ok s => rfl
  | err k => rw [hc] at h; cases h
  | panic w => rw [hc] at h; cases h

/-- non-vacuity: a history with an accepted `create_table`, an accepted insert, a refused insert
(duplicate key), a delete, an accepted `drop_table` and a refused one (table gone) is admissible on the created package -/
theorem demo_admissible : Admissible demoPkg
    [.create "Demo".toList demoCols,
     .dml (.insert "Demo".toList [[.int 7, .str "seven".toList], [.int 8, .null]]),
     .dml (.insert "Demo".toList [[.int 7, .null]]),
     .dml (.delete "Demo".toList none),
     .drop "Demo".toList,
     .drop "Demo".toList] := by
  have user : MsiProofs.CatalogSync.isCatalogName "Demo".toList = false := by decide
  exact ⟨Or.inr demo_eval.2.1, user, user, user, Or.inr demo_eval.2.2.2.1,
    Or.inl (Or.inr (Or.inr demo_eval.2.2.2.2.1)), trivial⟩

/-- and the accepted calls really are accepted there -/
theorem demo_accepted :
    (insertExec { (createTable demoPkg "Demo".toList demoCols).1 with finisher := true } "Demo".toList
      [[.int 7, .str "seven".toList], [.int 8, .null]]).2 = .ok () := demo_eval.2.2.1


/-- **the whole-life theorem with every hypothesis discharged** (UTF-8, any Unicode text): from
`Package::create`, after ANY sequence of covered calls - none assumed to succeed, only not to hit
the capacity panic - a save succeeds and the saved container reopens as the same package -/
def create_closed := @MsiProofs.ClosedLifecycle.create_closed
def created_closed := @MsiProofs.ClosedLifecycle.created_closed
/-- one covered call keeps every invariant, the pool and the summary expressible -/
def step_closed := @MsiProofs.ClosedLifecycle.step_closed
/-- a state that can be written is written: the finisher succeeds -/
def finish_ok := @MsiProofs.ClosedLifecycle.finish_ok
/-- the summary setters and clearers keep the summary information a well-formed property set -/
def sumInv_apply := @MsiProofs.SummaryInv.sumInv_apply
def sumInv_wf := @MsiProofs.SummaryInv.sumInv_wf

open MsiProofs.ClosedLifecycle MsiProofs.SummaryInv MsiProofs.Utf8Lifecycle MsiProofs.AsciiLifecycle in
/-- non-vacuity of the closed theorem: a history with non-ASCII text, an accepted and a refused
insert, a summary setter, a save and a close-and-reopen is covered -/
theorem demo_closed : AdmissibleC demoPkg
    [.create "Demo".toList demoCols,
     .dml (.insert "Demo".toList [[.int 7, .str "s\u00e9ven \u65e5\u672c".toList], [.int 8, .null]]),
     .dml (.insert "Demo".toList [[.int 7, .null]]),
     .setSummary (SumOp.apply (.str Gen.propAuthor "J\u00fcrgen".toList)),
     .save,
     .reopen] := by
  obtain ⟨-, hcr, -, -, -, hr1, hr2, hr3, hflags⟩ := demo_eval
  have user : MsiProofs.CatalogSync.isCatalogName "Demo".toList = false := by decide
  -- a text of at most 1000 characters is short when encoded
  have short : ∀ st : List Char, st.length ≤ 1000 → (utf8Bytes st).length < bound := by
    intro st hl
    have := (utf8Bytes_bounds st).2
    unfold bound; omega
  have shortU : ∀ st : List Char, st.length ≤ 1000 → Utf8Short st := fun st hl =>
    Nat.lt_trans (short st hl) (by decide)
  have ascii := fun rows h => (rowsA_of_check rows h).mono utf8Short_of_ascii
  refine ⟨⟨fun w h => (nomatch hcr.symm.trans h), ascii _ hr1, ascii _ hr2, ascii _ hr3⟩, ⟨user, ?_⟩, ⟨user, ?_⟩,
    Or.inl ⟨SumOp.str Gen.propAuthor "J\u00fcrgen".toList, ⟨?_, short _ ?_⟩, rfl⟩,
    trivial, ?_, trivial⟩
  · suffices h : Utf8Short "s\u00e9ven \u65e5\u672c".toList by simpa [StepA, PoolText.RowsA, PoolText.ValA] using h
    exact shortU _ (by decide +kernel)
  · simp [StepA, PoolText.RowsA, PoolText.ValA]
  · decide
  · decide +kernel
  · show StepC demo5 _
    exact hflags

end MsiProofs.C01
