import MsiProofs.Lemmas.PoolCodec
import MsiProofs.Lemmas.RowCodec
import MsiProofs.Props.C06
/-
C02 — independently encoded MSI databases are read exactly.
The readers against the format, for every well-formed input of the respective layer (not
for the handful a generator emits): the string pool (both reference widths, strings over
64 KiB through the escape, unused entries, duplicates, any entry order — only a *live empty
entry* is inexpressible, and that is exactly the format's ambiguity), the column-major row
blocks with offset-binary cells, and the type word of every storable column.  The
catalog pass (`_Tables` → `_Columns` → `_Validation`) and the property-set reader are in
`C02b`; they are also tied by correspondence on files produced by the independent encoder
(harness/src/decode.rs), whose layout choices the library never makes itself.
-/
namespace MsiProofs.C02
open MsiModel

/-- the pool reader reads every entry list the format can express -/
def pool_entries_read := @MsiProofs.PoolCodec.readEntries_roundtrip
/-- the data stream is cut by the recorded lengths and decoded in the pool's code page -/
def pool_strings_read := @MsiProofs.PoolCodec.buildStrings_roundtrip
/-- reader ∘ writer = id on every pool the format can express -/
def pool_roundtrip := @MsiProofs.PoolCodec.pool_roundtrip
/-- a live empty entry is not expressible: it reads as a long-string header -/
def live_empty_entry_misread := MsiProofs.PoolCodec.live_empty_entry_misread
/-- row blocks: whole number of rows, column-major, read back exactly -/
def rows_roundtrip := @MsiProofs.RowCodec.rows_roundtrip
/-- every storable cell, both reference widths -/
def cell_roundtrip := @MsiProofs.Codec.cell_roundtrip
/-- the type word of every storable column -/
def typeword_roundtrip := @MsiProofs.C06.typeword_roundtrip

/-- integer field size 1 is read as a 16-bit column (some producers write it) -/
theorem int_size_one_is_int16 :
    Column.typeOfBits 1 = .ok .int16 ∧ Column.typeOfBits 2 = .ok .int16 ∧ Column.typeOfBits 4 = .ok .int32 ∧
    Column.typeOfBits 3 = .err .invalidData := by decide +kernel

/-- code page id 0 in the pool header means the default (UTF-8) -/
theorem cp_zero_default : CodePage.fromId 0 = some Gen.cpDefault := C14.fromId_zero

end MsiProofs.C02
