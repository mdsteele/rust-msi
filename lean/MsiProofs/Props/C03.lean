import MsiProofs.Props.C05
import MsiProofs.Props.C12
/-
C03 — insert, update, delete and select follow the relational model.
Here: the row-level loops of the DML and select paths equal the plain list operations of
the relational model (filter, map-if, keep-if-not), for all tables, rows and conditions
(conditions are programs: `evalCond` is `Expr::eval`, settled for every tree by C13);
inserts add exactly the given rows in key order (C05 lemmas).  The frame condition and the
lift over histories are in `C03b` and `C03c`.
-/
namespace MsiProofs.C03
open MsiModel MsiModel.Pkg

def condVal (t : Table) (p : Pool) (cond : Option Ast) (r : List Cell) : Option Bool :=
  match evalCond t p cond r with
  | .ok b => some b
  | _ => none

theorem condVal_some {t : Table} {p : Pool} {cond : Option Ast} {r : List Cell} {b : Bool} :
    condVal t p cond r = some b ↔ evalCond t p cond r = .ok b := by
  unfold condVal
  cases evalCond t p cond r <;> simp

/-- **select returns exactly the rows satisfying the condition, in stored order** -/
theorem filterRows_spec (t : Table) (p : Pool) (cond : Option Ast) (rows acc : List (List Cell))
    (htot : ∀ r ∈ rows, ∃ b, condVal t p cond r = some b) :
    filterRows t p cond rows acc =
      .ok (acc.reverse ++ rows.filter fun r => condVal t p cond r == some true) := by
  induction rows generalizing acc with
  | nil => simp [filterRows, pure]
  | cons r rest ih =>
    obtain ⟨b, hb⟩ := htot r (by simp)
    rw [filterRows, condVal_some.mp hb, Res.bind_ok, ih _ fun x hx => htot x (by simp [hx])]
    cases b <;> simp [hb]

/-- **delete removes exactly the rows satisfying the condition** and keeps the others in
order; the strings of removed rows are released one reference each -/
theorem deleteGo_rows (t : Table) (cond : Option Ast) (p : Pool) (rows acc : List (List Cell))
    (hconst : ∀ (p1 p2 : Pool) (r : List Cell), r ∈ rows → condVal t p1 cond r = condVal t p2 cond r)
    (htot : ∀ r ∈ rows, ∃ b, condVal t p cond r = some b) :
    ∃ p', deleteGo t cond p rows acc =
      .ok (p', acc.reverse ++ rows.filter fun r => condVal t p cond r == some false) := by
  induction rows generalizing acc p with
  | nil => exact ⟨p, by simp [deleteGo, pure]⟩
  | cons r rest ih =>
    obtain ⟨b, hb⟩ := htot r (by simp)
    have hconst' : ∀ (p1 p2 : Pool) (x : List Cell), x ∈ rest → condVal t p1 cond x = condVal t p2 cond x :=
      fun p1 p2 x hx => hconst p1 p2 x (by simp [hx])
    rw [deleteGo, condVal_some.mp hb, Res.bind_ok]
    cases b
    · obtain ⟨p', hp'⟩ := ih p (r :: acc) hconst' (fun x hx => htot x (by simp [hx]))
      exact ⟨p', by simp [hp', hb]⟩
    · obtain ⟨p', hp'⟩ := ih (r.foldl Cell.remove p) acc hconst'
        (fun x hx => by rw [hconst' _ p x hx]; exact htot x (by simp [hx]))
      refine ⟨p', ?_⟩
      have : ((some true : Option Bool) == some false) = false := rfl
      simp only [if_true, hp', List.filter_cons, hb, this, Bool.false_eq_true, if_false]
      congr 3
      exact List.filter_congr fun x hx => by rw [hconst' _ p x hx]

/-- **update changes exactly the named columns of exactly the matching rows** (the planned
new values of each row) -/
theorem updPlan_spec (t : Table) (p : Pool) (cond : Option Ast) (ups : List (Nat × Value))
    (rows : List (List Cell)) (acc : List (List Value × Bool))
    (htot : ∀ r ∈ rows, ∃ b, condVal t p cond r = some b) :
    updPlan t p cond ups rows acc =
      .ok (acc.reverse ++ rows.map fun r =>
        let m := condVal t p cond r == some true
        (if m then ups.foldl (fun vs (iv : Nat × Value) => vs.set iv.1 iv.2) (rowValues p r) else rowValues p r, m)) := by
  induction rows generalizing acc with
  | nil => simp [updPlan, pure]
  | cons r rest ih =>
    obtain ⟨b, hb⟩ := htot r (by simp)
    rw [updPlan, condVal_some.mp hb, Res.bind_ok, ih _ fun x hx => htot x (by simp [hx])]
    cases b <;> simp [hb]

/-- insert: see `C05.insert_writes_sorted_unique` (ascending unique keys) and
`Order.mapInsert_sorted` (the new map holds exactly the old rows and the new row) -/
theorem insert_adds_exactly {k v m m'} (hs : MsiProofs.Order.Sorted m) (h : mapInsert k v m = some m') :
    ∀ x, x ∈ m' ↔ x = (k, v) ∨ x ∈ m := (MsiProofs.Order.mapInsert_sorted hs h).2

end MsiProofs.C03
