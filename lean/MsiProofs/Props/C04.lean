import MsiModel.PkgApi
import MsiProofs.Lemmas.Exec
/-
C04 — rejected operations change nothing.
In the model a step returns the state it leaves behind *also on error*.  Here: every
rejection that `create_table`, `drop_table`, the stream calls and `Insert::exec` /
`Delete::exec` / `Update::exec` decide for their arguments returns the state untouched; `create_table`
performs all of its own checks — including that the three catalog tables can hold the new
rows — before the first insert.
-/
namespace MsiProofs.C04
open MsiModel MsiModel.Pkg

/-- **a `create_table` refused by any of its checks leaves the package untouched** -/
theorem createTable_rejected_noop (s : Pkg) (name : List Char) (cols : List Column) (k : ErrKind)
    (h : createError s name cols = some k) : createTable s name cols = (s, .err k) := by
  unfold createTable; rw [h]

/-- the checks cover the late failures of the unrepaired code: names longer than the
`_Validation` columns, ranges holding the reserved integer, unstorable columns -/
theorem createError_covers (s : Pkg) (name : List Char) (cols : List Column)
    (h : createError s name cols = none) :
    Table.isValidName name = true ∧ isPoolName name = false ∧
    cols ≠ [] ∧ cols.length ≤ Gen.maxTableColumns ∧
    (∀ c ∈ cols, isStorable c = true) ∧ s.findTable name = none ∧
    rowsValidFor (Catalog.columnsTable false) (catalogRowsColumns name cols) = true ∧
    rowsValidFor (Catalog.tablesTable false) [[.str name]] = true ∧
    rowsValidFor (Catalog.validationTable false) (catalogRowsValidation name cols) = true := by
  obtain ⟨h1, h2, h3, h4, -, -, -, h8, h9, h10, h11, h12⟩ := Exec.createError_eq_none.mp h
  refine ⟨h1, h2, (fun e => by rw [e] at h3; cases h3), h4, fun c hc => ?_, h8, h10, h11, h12⟩
  simpa using List.any_eq_false.mp h9 c hc

/-- `drop_table`: reserved, invalid and unknown names are refused without any change -/
theorem dropTable_rejected_noop (s : Pkg) (name : List Char)
    (h : Catalog.isReserved name = true ∨ Table.isValidName name = false ∨ s.findTable name = none) :
    ∃ k, dropTable s name = (s, .err k) := by
  unfold dropTable
  split
  · exact ⟨_, rfl⟩
  split
  · exact ⟨_, rfl⟩
  · rcases h with h | h | h
    · simp_all
    · simp_all
    · simp [h]

/-- the stream calls check the name (and existence) first -/
theorem stream_rejected_noop (s : Pkg) (n : List Char) (data : Bytes.Bytes)
    (h : StreamName.isValid n false = false) :
    writeStream s n data = (s, .err .invalidInput) ∧ removeStream s n = (s, .err .invalidInput) ∧
    readStream s n = .err .invalidInput := by
  simp [writeStream, removeStream, readStream, h]

theorem removeStream_missing_noop (s : Pkg) (n : List Char)
    (h : Cont.exists_ s.cont (StreamName.encode n false) = false) :
    ∃ k, removeStream s n = (s, .err k) := by
  unfold removeStream
  split
  · exact ⟨_, rfl⟩
  · simp [h]

/-! ### `write_rows` fails only with InvalidInput, so the other kinds come from the checks -/

theorem writeValue_err (long : Bool) (t : ColType) (c : Cell) (k : ErrKind)
    (h : t.writeValue long c = .err k) : k = .invalidInput := by
  cases t <;> cases c <;> simp [ColType.writeValue] at h <;> first | exact h.symm | skip
  rename_i w r
  split at h
  · cases h
  · split at h
    · cases h
    · injection h with h; exact h.symm

theorem writeCol_err (long : Bool) (ty : ColType) (i : Nat) (rows : List (List Cell)) (acc : Bytes.Bytes)
    (k : ErrKind) (h : Table.writeCol long ty i rows acc = .err k) : k = .invalidInput := by
  induction rows generalizing acc with
  | nil => cases h
  | cons r rest ih =>
    unfold Table.writeCol at h
    cases hc : r[i]? with
    | none => rw [hc] at h; cases h
    | some c =>
      rw [hc] at h
      rcases Res.bind_eq_err.mp h with hw | ⟨bs, -, h2⟩
      · exact writeValue_err long ty c k hw
      · exact ih _ h2

theorem writeCols_err (long : Bool) (rows : List (List Cell)) (cols : List Column) (i : Nat)
    (acc : Bytes.Bytes) (k : ErrKind) (h : Table.writeCols long rows cols i acc = .err k) :
    k = .invalidInput := by
  induction cols generalizing i acc with
  | nil => cases h
  | cons c cs ih =>
    rcases Res.bind_eq_err.mp h with hc | ⟨acc', -, h2⟩
    · exact writeCol_err _ _ _ _ _ _ hc
    · exact ih _ _ h2

theorem storeRows_err (s : Pkg) (t : Table) (rows : List (List Cell)) (s' : Pkg) (k : ErrKind)
    (h : storeRows s t rows = (s', .err k)) : k = .invalidInput := by
  unfold storeRows at h
  cases hw : t.writeRows rows with
  | ok bs => rw [hw] at h; cases (Prod.mk.inj h).2
  | err k' =>
    rw [hw] at h
    cases (Prod.mk.inj h).2
    exact writeCols_err _ _ _ _ _ _ hw
  | panic w => rw [hw] at h; cases (Prod.mk.inj h).2

/-- a statement refused with a kind other than InvalidInput was refused by its plan or for want of
the table, so before the pool or the stream was touched -/
theorem onTable_err_noop {s : Pkg} {tn : List Char} {plan : Table → Res (Pool × List (List Cell))}
    {s' : Pkg} {k : ErrKind} (h : Exec.onTable s tn plan = (s', .err k)) (hk : k ≠ .invalidInput) :
    s' = s := by
  unfold Exec.onTable at h
  cases hf : s.findTable tn with
  | none => simp only [hf] at h; exact (Prod.mk.inj h).1.symm
  | some t =>
    simp only [hf] at h
    cases hp : plan t with
    | ok x => rw [hp] at h; exact absurd (storeRows_err _ _ _ _ _ h) hk
    | err k' => rw [hp] at h; exact (Prod.mk.inj h).1.symm
    | panic w => rw [hp] at h; exact (Prod.mk.inj h).1.symm

/-- **`Insert::exec`: a rejection for an unknown table, a duplicate key or malformed stored
data returns exactly the state it was given** (these kinds can only come from the checks
that precede the first change to the string pool or the stream) -/
theorem insert_rejected_noop (s : Pkg) (tname : List Char) (rows : List (List Value)) (k : ErrKind)
    (s' : Pkg) (h : insertExec s tname rows = (s', .err k))
    (hk : k = .notFound ∨ k = .alreadyExists ∨ k = .invalidData) : s' = s := by
  rw [Exec.insertExec_eq] at h
  refine onTable_err_noop h ?_
  rintro rfl
  simp at hk

/-- `Delete::exec`: unknown table or column, or unreadable rows: nothing changes -/
theorem delete_rejected_noop (s : Pkg) (tname : List Char) (cond : Option Ast) (k : ErrKind)
    (s' : Pkg) (h : deleteExec s tname cond = (s', .err k))
    (hk : k = .notFound ∨ k = .invalidData) : s' = s := by
  rw [Exec.deleteExec_eq] at h
  refine onTable_err_noop h ?_
  rintro rfl
  simp at hk

/-- **`Update::exec`: a rejection other than InvalidInput — unknown table, a key collision, a
malformed stored table — returns exactly the state it was given**; the InvalidInput rejections of
the checks (unknown column, invalid value, condition naming an unknown column) are covered by
`update_invalid_noop` -/
theorem update_rejected_noop (s : Pkg) (tname : List Char) (ups : List (List Char × Value)) (cond : Option Ast)
    (k : ErrKind) (s' : Pkg) (h : updateExec s tname ups cond = (s', .err k)) (hk : k ≠ .invalidInput) :
    s' = s := by
  rw [Exec.updateExec_eq] at h
  exact onTable_err_noop h hk

/-- the checks of `Update::exec` (assignments, then the condition) reject before anything changes -/
theorem update_invalid_noop (s : Pkg) (tname : List Char) (ups : List (List Char × Value)) (cond : Option Ast)
    (t : Table) (ht : s.findTable tname = some t)
    (h : validateUpdates t ups ≠ none ∨ condMissing t cond = true) :
    ∃ k, updateExec s tname ups cond = (s, .err k) := by
  unfold updateExec
  simp only [ht]
  cases hv : validateUpdates t ups with
  | some k1 => exact ⟨k1, rfl⟩
  | none =>
    simp only
    rcases h with h | h
    · exact absurd hv h
    · exact ⟨.invalidInput, by rw [if_pos h]⟩

/-- non-vacuity: a 40-character table name is caught by the checks (it fits the container
but not the `_Validation.Table` column) -/
example : createError (default : Pkg) (List.replicate 40 'T')
    [{ name := ['K'], coltype := .int16, isPrimaryKey := true }] = some .invalidInput := by decide

end MsiProofs.C04
