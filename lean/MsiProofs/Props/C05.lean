import MsiProofs.Lemmas.Order
import MsiProofs.Lemmas.LoopSpecs
/-
C05 — stored tables always keep unique, ordered keys and valid cells.
The code keeps each table's rows in a key-sorted map (`BTreeMap`) while inserting and writes
the map's values back; the model does the same with `mapInsert`.  Here: the derived
ordering is a strict total order, so the map is strictly sorted after any sequence of
insertions (hence keys are unique and ascending), and an insertion is refused exactly for a
key that is present.
-/
namespace MsiProofs.C05
open MsiModel MsiModel.Pkg MsiProofs.Order

/-- the ordering used for keys is a strict total order (irreflexive, transitive, connected) -/
theorem key_order_strict_total :
    (∀ a, keyLt a a = false) ∧
    (∀ a b c, keyLt a b = true → keyLt b c = true → keyLt a c = true) ∧
    (∀ a b, keyLt a b = false → keyLt b a = false → a = b) :=
  ⟨keyLt_irrefl, fun _ _ _ => keyLt_trans, fun _ _ => keyLt_connected⟩

/-- loading the stored rows keeps the map strictly sorted (`loadMap` of `Insert::exec`) -/
theorem loadMap_sorted {p keyIdx rows m m'} (hs : Sorted m) (h : loadMap p keyIdx rows m = some m') :
    Sorted m' := by
  induction rows generalizing m with
  | nil => cases h; exact hs
  | cons r rest ih =>
    simp only [loadMap] at h
    cases hm : mapInsert (keyOf keyIdx (rowValues p r)) r m with
    | none => rw [hm] at h; cases h
    | some m1 =>
      rw [hm] at h
      exact ih (mapInsert_sorted hs hm).1 h

/-- `ValueRef::create` has no error outcome -/
theorem createCells_ok_or_panic (p : Pool) (vs : List Value) (acc : List Cell) :
    (∃ r, createCells p vs acc = .ok r) ∨ (∃ w, createCells p vs acc = .panic w) := by
  cases h : createCells p vs acc with
  | ok r => exact Or.inl ⟨r, rfl⟩
  | panic w => exact Or.inr ⟨w, rfl⟩
  | err k => exact absurd h (MsiProofs.LoopSpecs.createCells_ne_err vs p acc k)

/-- adding the new rows keeps the map strictly sorted (`addRows` of `Insert::exec`) -/
theorem addRows_sorted {keyIdx p rows m p' m'} (hs : Sorted m)
    (h : addRows keyIdx p rows m = .ok (p', m')) : Sorted m' := by
  induction rows generalizing p m with
  | nil => cases h; exact hs
  | cons r rest ih =>
    obtain ⟨⟨p1, cells⟩, -, h2⟩ := Res.bind_eq_ok.mp h
    cases hm : mapInsert (keyOf keyIdx r) cells m with
    | none => simp [hm] at h2
    | some m1 =>
      simp only [hm] at h2
      exact ih (mapInsert_sorted hs hm).1 h2

/-- **unique, ascending keys**: whatever rows the stream held and whatever batch is
inserted, the rows that a successful `Insert::exec` writes back are in strictly ascending
key order with pairwise distinct keys -/
theorem insert_writes_sorted_unique {p keyIdx existing m newRows p' m'}
    (h1 : loadMap p keyIdx existing [] = some m) (h2 : addRows keyIdx p newRows m = .ok (p', m')) :
    (m'.map (·.1)).Pairwise (fun a b => keyLt a b = true) ∧ (m'.map (·.1)).Pairwise (· ≠ ·) := by
  have hs : Sorted m' := addRows_sorted (loadMap_sorted (by simp [Sorted]) h1) h2
  exact ⟨by rw [List.pairwise_map]; exact hs, sorted_keys_distinct hs⟩

/-- an insertion is refused exactly when the key is already present -/
theorem insert_refused_iff_present {k v m} (hs : Sorted m) :
    mapInsert k v m = none ↔ mapContains k m = true := mapInsert_none_iff hs

theorem insByKey_perm (keys : List (List Value)) (x : Nat) : ∀ sorted : List Nat,
    (insByKey keys x sorted).Perm (x :: sorted)
  | [] => .refl _
  | y :: ys => by
    unfold insByKey
    split
    · exact .refl _
    · exact ((insByKey_perm keys x ys).cons y).trans (.swap x y ys)

/-- the update path re-sorts: `sortByKey` returns a permutation of the row indices -/
theorem sortByKey_perm (keys : List (List Value)) (order : List Nat) :
    (sortByKey keys order).Perm order := by
  have : ∀ (l acc : List Nat), (l.foldl (fun acc x => insByKey keys x acc) acc).Perm (l ++ acc) := by
    intro l
    induction l with
    | nil => intro acc; exact .refl _
    | cons x xs ih =>
      intro acc
      exact (ih _).trans ((List.Perm.append_left xs (insByKey_perm keys x acc)).trans List.perm_middle)
  simpa [sortByKey] using (this order.reverse []).trans (by simp)

/-- non-vacuity -/
example : loadMap (Pool.new 0) [0] [[.int 2], [.int 1], [.null]] [] =
    some [([.null], [.null]), ([.int 1], [.int 1]), ([.int 2], [.int 2])] := by decide
example : loadMap (Pool.new 0) [0] [[.int 2], [.int 2]] [] = none := by decide

end MsiProofs.C05
