import MsiModel.PkgApi
import MsiProofs.Lemmas.Exec
/-
C06 — a created table reopens with the schema it was created with.
The type word: `with_bitfield (builder c) (bitfield c)` gives back type, width, nullability,
primary-key and localizable flags for every storable column; unstorable definitions are
refused by `create_table`.  (The `_Validation` half — range, category, enumeration, foreign
key — and the loop of `open` that rebuilds the columns are in `C06b`; the composition with
save/reopen is in `C01b`.)
-/
namespace MsiProofs.C06
open MsiModel

/-- the bit constants regenerated from column.rs are pairwise disjoint and the size field
is the low byte, so a width up to 255 never touches a flag -/
theorem bits_disjoint :
    Gen.colFieldSizeMask = 255 ∧
    [Gen.colValidBit, Gen.colLocalizableBit, Gen.colNonbinaryBit, Gen.colStringBit, Gen.colNullableBit,
      Gen.colPrimaryKeyBit].Pairwise (fun a b => a &&& b = 0) ∧
    (∀ b ∈ [Gen.colValidBit, Gen.colLocalizableBit, Gen.colNonbinaryBit, Gen.colStringBit,
      Gen.colNullableBit, Gen.colPrimaryKeyBit], b &&& Gen.colFieldSizeMask = 0) ∧
    Gen.colInt16Bits = 2 ∧ Gen.colInt32Bits = 4 := by
  decide +kernel

def mkCol (t : ColType) (l n k : Bool) (cat : Option Category) : Column :=
  { name := ['c'], coltype := t, isLocalizable := l, isNullable := n, isPrimaryKey := k, category := cat }

/-- the decoded column agrees with the original in everything the type word carries -/
def roundtripOk (c : Column) : Bool :=
  match Column.withBitfield { c with coltype := .int16, isLocalizable := false, isPrimaryKey := false }
      c.bitfield with
  | .ok d => d.coltype == c.coltype && d.isLocalizable == c.isLocalizable &&
      d.isNullable == c.isNullable && d.isPrimaryKey == c.isPrimaryKey
  | _ => false

def allTypes : List ColType := [.int16, .int32] ++ (List.range 256).map ColType.str
def bools : List Bool := [false, true]
def cats : List (Option Category) := [none, some .binary, some .text]

/-- the type word does not depend on anything but type, flags and (for width 0) whether the
category is Binary -/
theorem bitfield_depends (c : Column) :
    c.bitfield = (mkCol c.coltype c.isLocalizable c.isNullable c.isPrimaryKey
      (if c.category = some .binary then some .binary else none)).bitfield := by
  unfold Column.bitfield mkCol
  simp only
  cases c.coltype with
  | int16 => rfl
  | int32 => rfl
  | str n =>
    cases n with
    | zero =>
      by_cases h : c.category = some .binary
      · simp [h]
      · simp [h]
    | succ m => rfl

theorem ite_or_and (b : Bool) (x f m : Nat) :
    (if b then x ||| f else x) &&& m = x &&& m ||| (if b then f &&& m else 0) := by
  cases b <;> simp [Nat.and_or_distrib_right]

theorem low_and {n m : Nat} (hn : n < 256) (hm : m &&& 255 = 0) : n &&& m = 0 := by
  rw [← Nat.mod_eq_of_lt hn, ← Nat.and_two_pow_sub_one_eq_mod n 8, Nat.and_assoc, Nat.and_comm _ m, hm,
    Nat.and_zero]

/-- what the decoder looks at: size byte and string bit are those of the type bits, and each
flag bit is the type bits' share or the flag -/
theorem word_fields (c : Column) :
    c.bitfield &&& 255 = Column.typeBits c.coltype &&& 255 ∧
    c.bitfield &&& 2048 = Column.typeBits c.coltype &&& 2048 ∧
    c.bitfield &&& 512 = (Column.typeBits c.coltype &&& 512 ||| if c.isLocalizable then 512 else 0) ∧
    c.bitfield &&& 4096 = (Column.typeBits c.coltype &&& 4096 ||| if c.isNullable then 4096 else 0) ∧
    c.bitfield &&& 8192 = (Column.typeBits c.coltype &&& 8192 ||| if c.isPrimaryKey then 8192 else 0) := by
  unfold Column.bitfield
  simp only [ite_or_and, Nat.and_or_distrib_right, Gen.colValidBit, Gen.colLocalizableBit,
    Gen.colNullableBit, Gen.colNonbinaryBit, Gen.colPrimaryKeyBit]
  simp

theorem strBits_fields {n : Nat} (hn : n ≤ 255) :
    (2048 ||| n % 4294967296) &&& 255 = n ∧ (2048 ||| n % 4294967296) &&& 2048 = 2048 ∧
    (2048 ||| n % 4294967296) &&& 512 = 0 ∧ (2048 ||| n % 4294967296) &&& 4096 = 0 ∧
    (2048 ||| n % 4294967296) &&& 8192 = 0 := by
  have hlt : n < 256 := by omega
  have e : n &&& 255 = n := (Nat.and_two_pow_sub_one_eq_mod n 8).trans (Nat.mod_eq_of_lt hlt)
  rw [Nat.mod_eq_of_lt (by omega)]
  simp only [Nat.and_or_distrib_right, low_and hlt (m := 2048) rfl, low_and hlt (m := 512) rfl,
    low_and hlt (m := 4096) rfl, low_and hlt (m := 8192) rfl]
  simp [e]

theorem flag_ne_zero (b : Bool) (f : Nat) (hf : f ≠ 0) :
    decide ((0 ||| if b then f else 0) ≠ 0) = b := by
  cases b <;> simp [hf]

/-- **round trip of the type word for every storable column** -/
theorem typeword_roundtrip (c : Column)
    (hw : match c.coltype with | .str n => n ≤ 255 | _ => True) :
    ∃ d, Column.withBitfield { c with coltype := .int16, isLocalizable := false, isPrimaryKey := false }
        c.bitfield = .ok d ∧
      d.coltype = c.coltype ∧ d.isLocalizable = c.isLocalizable ∧ d.isNullable = c.isNullable ∧
      d.isPrimaryKey = c.isPrimaryKey ∧ d.name = c.name ∧ d.valueRange = c.valueRange ∧
      d.foreignKey = c.foreignKey ∧ d.category = c.category ∧ d.enumValues = c.enumValues := by
  obtain ⟨h255, h2048, h512, h4096, h8192⟩ := word_fields c
  have ht : Column.typeOfBits c.bitfield = .ok c.coltype ∧ Column.typeBits c.coltype &&& 512 = 0 ∧
      Column.typeBits c.coltype &&& 4096 = 0 ∧ Column.typeBits c.coltype &&& 8192 = 0 := by
    unfold Column.typeOfBits
    simp only [Gen.colFieldSizeMask, Gen.colStringBit, h255, h2048]
    cases hc : c.coltype with
    | int16 => decide
    | int32 => decide
    | str n =>
      rw [hc] at hw
      obtain ⟨e1, e2, e3, e4, e5⟩ := strBits_fields hw
      simp only [Column.typeBits, Gen.colStringBit, e1, e2, e3, e4, e5]
      simp
  obtain ⟨ht, t512, t4096, t8192⟩ := ht
  unfold Column.withBitfield
  rw [ht]
  refine ⟨_, rfl, rfl, ?_, ?_, ?_, rfl, rfl, rfl, rfl, rfl⟩
  · simp only [Gen.colLocalizableBit, h512, t512]; exact flag_ne_zero _ _ (by decide)
  · simp only [Gen.colNullableBit, h4096, t4096]; cases c.isNullable <;> simp
  · simp only [Gen.colPrimaryKeyBit, h8192, t8192]; exact flag_ne_zero _ _ (by decide)

/-- the table of every storable type (both integer types, all 256 string widths), every flag
combination and the categories that influence the word: 3,096 type words -/
theorem typeword_roundtrip_all :
    allTypes.all (fun t => bools.all fun l => bools.all fun n => bools.all fun k => cats.all fun cat =>
      roundtripOk (mkCol t l n k cat)) = true := by
  simp only [List.all_eq_true]
  intro t ht l _ n _ k _ cat _
  have hw : match (mkCol t l n k cat).coltype with | .str n => n ≤ 255 | _ => True := by
    simp only [allTypes, List.mem_append, List.mem_map, List.mem_range] at ht
    rcases ht with ht | ⟨w, hw, rfl⟩
    · simp only [List.mem_cons, List.not_mem_nil, or_false] at ht
      rcases ht with rfl | rfl <;> trivial
    · exact Nat.le_of_lt_succ hw
  obtain ⟨d, hd, h1, h2, h3, h4, _⟩ := typeword_roundtrip (mkCol t l n k cat) hw
  unfold roundtripOk
  rw [hd]
  simp [h1, h2, h3, h4]

/-- a column that is not storable is refused by `create_table`, and nothing changes -/
theorem unstorable_refused (s : Pkg) (name : List Char) (cols : List Column)
    (h : ∃ c ∈ cols, Pkg.isStorable c = false) :
    ∃ k, Pkg.createTable s name cols = (s, .err k) := by
  cases hk : Pkg.createError s name cols with
  | some k => exact ⟨k, Exec.createTable_of_error hk⟩
  | none =>
    obtain ⟨c, hc, hs⟩ := h
    have hall := List.any_eq_false.mp (Exec.createError_eq_none.mp hk).2.2.2.2.2.2.2.2.1 c hc
    simp [hs] at hall

/-- what `is_storable` excludes: widths beyond the 8-bit field, empty or `;`-containing
enumeration values -/
theorem isStorable_iff (c : Column) :
    Pkg.isStorable c = true ↔
      (match c.coltype with | .str n => n ≤ 255 | _ => True) ∧
      ∀ v ∈ c.enumValues, v ≠ [] ∧ ';' ∉ v := by
  unfold Pkg.isStorable
  have e : Gen.colFieldSizeMask = 255 := rfl
  rw [e]
  cases c.coltype <;> simp [List.isEmpty_iff] <;> grind

example : Pkg.isStorable (mkCol (.str 4096) false false true none) = false := by decide +kernel
example : Pkg.isStorable { mkCol (.str 8) false false false none with enumValues := [['a', ';', 'b']] } = false := by decide +kernel

end MsiProofs.C06
