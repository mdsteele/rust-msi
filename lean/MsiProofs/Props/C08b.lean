import MsiProofs.Props.C08
import MsiProofs.Lemmas.RefineExact
import MsiProofs.Lemmas.GlobalInv
import MsiProofs.Lemmas.GlobalInvUpd
import MsiProofs.Lemmas.SortUpd
import MsiProofs.Lemmas.Lifecycle
import MsiProofs.Lemmas.AsciiLifecycle
/-
C08, as an invariant of the operations — reference counts stay exact.  `AccountedWith slack p cells`:
for every pool entry, (number of cells referring to it) + slack = its reference count.  Insert and
delete keep the SAME slack for the cells the new state reads (and any other cells of interest, e.g.
those of all other tables); with slack 0 the reference counts equal the numbers of references.
So do update, `create_table` and `drop_table`, hence every state reachable from `Package::create`.
-/
namespace MsiProofs.C08
open MsiModel MsiModel.Pkg MsiProofs.RefineExact

/-- `incref` adds one reference to the entry it returns and changes no other count -/
def incref_exact := @MsiProofs.RefineExact.incref_exact
/-- `decref` releases one reference of one entry and nothing else; text is kept while a reference remains -/
def decref_spec := @MsiProofs.RefineDelete.decref_spec
/-- **`Insert::exec` keeps reference counting exact** -/
def insert_accounted := @MsiProofs.RefineExact.insert_accountedW
/-- **`Delete::exec` keeps reference counting exact** -/
def delete_accounted := @MsiProofs.RefineExact.delete_accountedW
/-- slack 0 = "counts equal the number of references" -/
def exact_iff := @MsiProofs.RefineExact.exact_iff

/-- the empty state is exact: no cells, no references -/
example : AccountedWith (fun _ => 0) (Pool.new 0) [] := by
  intro r _
  simp [Pool.new, Pool.refcount]


/-! ### whole packages, whole histories -/
/-- the package invariant: every table loads, table streams are pairwise distinct, and the
reference counts equal the references held by the cells of ALL tables plus a fixed slack -/
abbrev Inv := MsiProofs.GlobalInv.Inv
/-- **every history of inserts and deletes, on any tables, accepted or refused, keeps reference
counting exact over the whole package** (induction over the request list, no bound) -/
def history_inv := @MsiProofs.GlobalInv.history_inv
def insert_inv := @MsiProofs.GlobalInv.insert_inv
def delete_inv := @MsiProofs.GlobalInv.delete_inv

/-- **`Update::exec` keeps reference counting exact**; and so does every history of inserts, updates
and deletes -/
def update_inv := @MsiProofs.GlobalInvUpd.update_inv
def dml_history_inv := @MsiProofs.GlobalInvUpd.history_inv


/-! ### non-vacuity: a state that satisfies the invariant, and requests that succeed on it -/
open MsiProofs.GlobalInv MsiProofs.SortedInv MsiProofs.RowsOk in
section
def tT : Table := ⟨['T'], [{ name := ['K'], coltype := .int16, isPrimaryKey := true },
                          { name := ['S'], coltype := .str 8, isNullable := true }], false⟩
def s0 : Pkg := ⟨0, [], default, false, Pool.new 0, [tT], false⟩

theorem s0_inv : Inv (fun _ => 0) s0 where
  distinct := by simp [s0]
  loads := by intro t ht; simp [s0] at ht; subst ht; exact ⟨[], rfl⟩
  pos := by intro r hr; simp [cellsOfTables, rowsOf, s0, Pkg.loadRows, Cont.find] at hr
  counts := by intro r _; simp [cellsOfTables, rowsOf, s0, Pkg.loadRows, Cont.find, Pool.new, Pool.refcount]
  sized := by simp [PoolSized, s0, Pool.new]
  widths := by intro t ht; simp [s0] at ht; subst ht; exact ⟨rfl, by decide⟩

theorem s0_sorted : SortedAll s0 := by
  intro t ht rows h
  simp [s0] at ht; subst ht
  simp [s0, Pkg.loadRows, Cont.find, pure] at h
  subst h
  simp [KeysAscending]


/-- an insert into this state succeeds, and reads back in key order ("b" interned as entry 1) -/
example : (insertExec s0 ['T'] [[.int 2, .str ['b']], [.int 1, .null]]).2 = .ok () := by decide
example : (insertExec s0 ['T'] [[.int 2, .str ['b']], [.int 1, .null]]).1.loadRows tT =
    .ok [[.int 1, .null], [.int 2, .str 1]] := by decide
/-- so the history theorems apply to it: after ANY requests the invariant and the key order hold -/
example (ops : List MsiProofs.GlobalInvUpd.Op) :
    Inv (fun _ => 0) (ops.foldl MsiProofs.GlobalInvUpd.Op.run s0) ∧
    SortedAll (ops.foldl MsiProofs.GlobalInvUpd.Op.run s0) :=
  MsiProofs.SortUpd.history_sorted _ ops s0 s0_inv s0_sorted
end

/-- **exact accounting in every state reachable from `Package::create`** by statements on user
tables, `create_table`, `drop_table` and saves: each pool entry's reference count equals the number
of cells, over all tables incl. the catalog, that refer to it -/
def created_history_exact := @MsiProofs.Lifecycle.created_history_exact
/-- `create_table` / `drop_table` keep the counts exact (same slack) -/
def createTable_full := @MsiProofs.CreateTable.createTable_full
def dropTable_full := @MsiProofs.DropTable.dropTable_full
/-- releasing a dropped table's strings: the other tables' cells stay accounted with the same slack -/
def release_stage := @MsiProofs.DropTable.release_stage

/-- **the pool stays expressible in the format in every reachable state**: every count below
65,536, an entry empty only when unreferenced (no live empty string), every text satisfying what
the inputs satisfy, a supported code page — for every call of the API (`step_pt`), hence
`PoolOk` for ASCII text (`poolOk_of_pt`): the saved pool reads back as the in-memory pool -/
def step_pt := @MsiProofs.AsciiLifecycle.step_pt
def poolOk_of_pt := @MsiProofs.AsciiLifecycle.poolOk_of_pt
def incref_pt := @MsiProofs.PoolText.incref_pt
def decref_pt := @MsiProofs.PoolText.decref_pt

end MsiProofs.C08
