import MsiModel.Session
/-
C09 — no input file can make the library panic.
Every `unwrap`, index, `panic!` and `debug_assert!` of the Rust is a `panic` outcome of the
model.  Here: `Package::open` has no reachable `panic` outcome for **any** container (any
map from stream names to byte strings, any root class id), and neither have the read
operations on the package it returns.  Quantification is over all containers, not over
files that decode.  (bytes → container is the `cfb` crate: outside the model, exercised by
the raw-bytes part of the harness.)
-/
namespace MsiProofs.C09
open MsiModel MsiModel.Bytes MsiModel.Pkg

def NoPanic {α} (x : Res α) : Prop := ∀ w, x ≠ .panic w

theorem np_ok {α} (a : α) : NoPanic (Res.ok a) := fun _ h => by cases h
theorem np_pure {α} (a : α) : NoPanic (pure a : Res α) := fun _ h => by cases h
theorem np_err {α} (k : ErrKind) : NoPanic (Res.err k : Res α) := fun _ h => by cases h

theorem np_bind {α β} {x : Res α} {f : α → Res β} (hx : NoPanic x) (hf : ∀ a, NoPanic (f a)) :
    NoPanic (x >>= f) := by
  intro w h
  cases x with
  | ok a => exact hf a w h
  | err k => cases h
  | panic w' => exact hx w' rfl

theorem np_bind' {α β} {x : Res α} {f : α → Res β} (hx : NoPanic x) (hf : ∀ a, x = .ok a → NoPanic (f a)) :
    NoPanic (x >>= f) := by
  intro w h
  cases x with
  | ok a => exact hf a rfl w h
  | err k => cases h
  | panic w' => exact hx w' rfl

/-- a result that is written out as `ok` or `err` (the branches of a `match` that computes nothing more) -/
theorem np_val {α} {x : Res α} (h : match x with | .panic _ => False | _ => True) : NoPanic x := by
  intro w e
  rw [e] at h
  exact h

theorem np_ofOption {α} (o : Option α) (k : ErrKind) : NoPanic (Res.ofOption o k) := by
  cases o <;> exact np_val True.intro

theorem np_ite {α} {c : Prop} [Decidable c] {x y : Res α} (hx : NoPanic x) (hy : NoPanic y) :
    NoPanic (if c then x else y) := by split <;> assumption

/-! ### byte readers -/

theorem np_readU8 (bs : Bytes) : NoPanic (readU8 bs) := by
  cases bs <;> exact np_val True.intro
theorem np_readU16 (bs : Bytes) : NoPanic (readU16 bs) := by
  unfold readU16; split <;> exact np_val True.intro
theorem np_readU32 (bs : Bytes) : NoPanic (readU32 bs) := by
  unfold readU32; split <;> exact np_val True.intro
theorem np_readU64 (bs : Bytes) : NoPanic (readU64 bs) := by
  unfold readU64
  exact np_bind (np_readU32 _) fun _ => np_bind (np_readU32 _) fun _ => np_pure _
theorem np_readExact (n : Nat) (bs : Bytes) : NoPanic (readExact n bs) := by
  unfold readExact; exact np_ite (np_err _) (np_ok _)

/-! ### property set -/

theorem np_readBytes (n : Nat) (bs acc : Bytes) : NoPanic (PropVal.readBytesOneByOne n bs acc) := by
  induction n generalizing bs acc with
  | zero => exact np_ok _
  | succ k ih =>
    cases bs with
    | nil => exact np_err _
    | cons b rest => simp only [PropVal.readBytesOneByOne]; exact ih _ _

theorem np_propval_read (cp : Nat) (bs : Bytes) : NoPanic (PropVal.read cp bs) := by
  unfold PropVal.read
  refine np_bind (np_readU32 _) fun p => ?_
  refine np_ite (np_pure _) (np_ite (np_pure _) (np_ite ?_ (np_ite ?_ (np_ite ?_ (np_ite ?_ (np_ite ?_ (np_err _)))))))
  · exact np_bind (np_readU16 _) fun _ => np_pure _
  · exact np_bind (np_readU32 _) fun _ => np_pure _
  · exact np_bind (np_readU8 _) fun _ => np_pure _
  · refine np_bind (np_readU32 _) fun q => np_bind (np_readBytes _ _ _) fun r => np_bind (np_readU8 _) fun t => ?_
    refine np_ite (np_err _) ?_
    split <;> exact np_val True.intro
  · exact np_bind (np_readU64 _) fun _ => np_pure _

theorem np_seekTo (d : Bytes) (p : Nat) : NoPanic (PropSet.seekTo d p) := by
  unfold PropSet.seekTo; exact np_ite (np_err _) (np_ok _)

theorem np_readOffsets (n : Nat) (bs : Bytes) (acc : List (Nat × Nat)) : NoPanic (PropSet.readOffsets n bs acc) := by
  induction n generalizing bs acc with
  | zero => exact np_pure _
  | succ k ih =>
    simp only [PropSet.readOffsets]
    exact np_bind (np_readU32 _) fun _ => np_bind (np_readU32 _) fun _ => np_ite (np_err _) (ih _ _)

theorem np_readVals (data : Bytes) (ver so cp : Nat) (offs : List (Nat × Nat)) (acc : List (Nat × PropVal)) :
    NoPanic (PropSet.readVals data ver so cp offs acc) := by
  induction offs generalizing acc with
  | nil => exact np_pure _
  | cons e rest ih =>
    obtain ⟨name, off⟩ := e
    simp only [PropSet.readVals]
    exact np_bind (np_seekTo _ _) fun _ => np_bind (np_propval_read _ _) fun _ => np_ite (np_err _) (ih _)

theorem np_readCodepage (data : Bytes) (so : Nat) (offs : List (Nat × Nat)) : NoPanic (PropSet.readCodepage data so offs) := by
  unfold PropSet.readCodepage
  split
  · refine np_bind (np_seekTo _ _) fun _ => np_bind (np_propval_read _ _) fun v => ?_
    split
    · exact np_ofOption _ _
    · exact np_err _
  · exact np_pure _

theorem np_propset_read (data : Bytes) : NoPanic (PropSet.read data) := by
  unfold PropSet.read
  refine np_bind (np_readU16 _) fun _ => np_ite (np_err _) ?_
  refine np_bind (np_readU16 _) fun _ => np_ite (np_err _) ?_
  refine np_bind (np_readU16 _) fun _ => np_bind (np_readU16 _) fun _ => np_ite (np_err _) ?_
  refine np_bind (np_readExact _ _) fun _ => np_bind (np_readU32 _) fun _ => np_ite (np_err _) ?_
  refine np_bind (np_readExact _ _) fun _ => np_bind (np_readU32 _) fun _ => ?_
  refine np_bind (np_seekTo _ _) fun _ => np_bind (np_readU32 _) fun _ => np_bind (np_readU32 _) fun _ => ?_
  exact np_bind (np_readOffsets _ _ _) fun offs => np_bind (np_readCodepage _ _ _) fun cp =>
    np_bind (np_readVals _ _ _ _ _ _) fun _ => np_pure _

theorem np_summary_read (data : Bytes) : NoPanic (Summary.read data) := by
  unfold Summary.read
  exact np_bind (np_propset_read _) fun _ => np_ite (np_err _) (np_pure _)

/-! ### string pool -/

theorem np_readEntries (fuel : Nat) (bs : Bytes) (acc : List (Nat × Nat)) : NoPanic (Pool.readEntries fuel bs acc) := by
  induction fuel generalizing bs acc with
  | zero => exact np_pure _
  | succ k ih =>
    simp only [Pool.readEntries]
    split
    · refine np_bind (np_readU16 _) fun p => ?_
      split
      · exact np_bind (np_readU16 _) fun _ => np_bind (np_readU16 _) fun _ => ih _ _
      · exact ih _ _
    · exact np_pure _

theorem np_buildStrings (cp : Nat) (es : List (Nat × Nat)) (d : Bytes) (acc : List (List Char × Nat)) :
    NoPanic (Pool.buildStrings cp es d acc) := by
  induction es generalizing d acc with
  | nil => exact np_pure _
  | cons e rest ih =>
    obtain ⟨len, rc⟩ := e
    simp only [Pool.buildStrings]
    refine np_bind (np_readExact _ _) fun p => ?_
    split
    · exact np_err _
    · exact ih _ _

theorem np_pool_read (a b : Bytes) : NoPanic (Pool.read a b) := by
  unfold Pool.read
  exact np_bind (np_readU32 _) fun _ => np_bind (np_ofOption _ _) fun _ => np_bind (np_readEntries _ _ _) fun _ =>
    np_bind (np_buildStrings _ _ _ _) fun _ => np_pure _

/-! ### tables -/

theorem np_readValue (long : Bool) (t : ColType) (bs : Bytes) : NoPanic (t.readValue long bs) := by
  cases t with
  | int16 => exact np_bind (np_readU16 _) fun _ => np_pure _
  | int32 => exact np_bind (np_readU32 _) fun _ => np_pure _
  | str w =>
    simp only [ColType.readValue]
    refine np_bind (np_readU16 _) fun _ => ?_
    split
    · exact np_bind (np_readU8 _) fun _ => np_pure _
    · exact np_pure _

theorem np_readColumn (long : Bool) (ty : ColType) (rows : List (List Cell)) (bs : Bytes) (acc : List (List Cell)) :
    NoPanic (Table.readColumn long ty rows bs acc) := by
  induction rows generalizing bs acc with
  | nil => exact np_pure _
  | cons r rest ih =>
    simp only [Table.readColumn]
    exact np_bind (np_readValue _ _ _) fun _ => ih _ _

theorem np_readCols (long : Bool) (cols : List Column) (rows : List (List Cell)) (bs : Bytes) :
    NoPanic (Table.readCols long cols rows bs) := by
  induction cols generalizing rows bs with
  | nil => exact np_pure _
  | cons c cs ih =>
    simp only [Table.readCols]
    exact np_bind (np_readColumn _ _ _ _ _) fun _ => ih _ _

theorem np_readRows (t : Table) (d : Bytes) : NoPanic (t.readRows d) := by
  unfold Table.readRows
  exact np_ite (np_err _) (np_readCols _ _ _ _)

theorem np_loadRows (s : Pkg) (t : Table) : NoPanic (s.loadRows t) := by
  unfold loadRows
  split
  · exact np_readRows _ _
  · exact np_pure _

/-! ### `Package::open` -/

theorem np_strCell (v : Value) : NoPanic (strCell v) := by
  cases v <;> exact np_val True.intro
theorem np_intCell (v : Value) : NoPanic (intCell v) := by
  cases v <;> exact np_val True.intro

theorem np_openNames (p : Pool) (rows : List (List Cell)) (acc : List (List Char)) : NoPanic (openNames p rows acc) := by
  induction rows generalizing acc with
  | nil => exact np_pure _
  | cons r rest ih =>
    simp only [openNames]
    exact np_bind (np_strCell _) fun _ => np_ite (np_err _) (ih _)

theorem np_openColsMap (p : Pool) (tn : List (List Char)) (rows : List (List Cell)) (acc) :
    NoPanic (openColsMap p tn rows acc) := by
  induction rows generalizing acc with
  | nil => exact np_pure _
  | cons r rest ih =>
    simp only [openColsMap]
    refine np_bind (np_strCell _) fun _ => np_ite (np_err _) ?_
    refine np_bind (np_intCell _) fun _ => np_ite (np_err _) ?_
    exact np_bind (np_strCell _) fun _ => np_bind (np_intCell _) fun _ => ih _

theorem np_openValMap (p : Pool) (rows : List (List Cell)) (acc) : NoPanic (openValMap p rows acc) := by
  induction rows generalizing acc with
  | nil => exact np_pure _
  | cons r rest ih =>
    simp only [openValMap]
    exact np_bind (np_strCell _) fun _ => np_bind (np_strCell _) fun _ => np_ite (np_err _) (ih _)

theorem np_withBitfield (b : Column) (bits : Nat) : NoPanic (b.withBitfield bits) := by
  unfold Column.withBitfield
  refine np_bind ?_ fun _ => np_pure _
  unfold Column.typeOfBits
  simp only
  exact np_ite (np_ok _) (np_ite (np_ok _) (np_ite (np_ok _) (np_ite (np_ok _) (np_err _))))

theorem np_openColumns (specs vals tn) (fuel i : Nat) (acc : List Column) :
    NoPanic (openColumns specs vals tn fuel i acc) := by
  induction fuel generalizing i acc with
  | zero => exact np_pure _
  | succ k ih =>
    simp only [openColumns]
    split
    · exact np_err _
    · exact np_bind (np_withBitfield _ _) fun _ => ih _ _

theorem np_openBuild (cs vs) (long : Bool) (names : List (List Char)) (acc : List Table) :
    NoPanic (openBuild cs vs long names acc) := by
  induction names generalizing acc with
  | nil => exact np_pure _
  | cons n rest ih =>
    simp only [openBuild]
    exact np_ite (np_err _) (np_bind (np_openColumns _ _ _ _ _ _) fun _ => ih _)

theorem np_streamOf (c : List Entry) (n : List Char) : NoPanic (streamOf c n) := by
  unfold streamOf; split <;> exact np_val True.intro

theorem np_openTables (pt : Nat) (cont : List Entry) (summary : PropSet) (pool : Pool) :
    NoPanic (openTables pt cont summary pool) := by
  unfold openTables
  refine np_bind (np_loadRows _ _) fun _ => np_bind (np_openNames _ _ _) fun _ => ?_
  refine np_bind (np_loadRows _ _) fun _ => np_bind (np_openColsMap _ _ _ _) fun _ => ?_
  refine np_bind (np_loadRows _ _) fun _ => np_bind (np_openValMap _ _ _) fun _ => ?_
  exact np_bind (np_openBuild _ _ _ _ _) fun _ => np_pure _

theorem np_openCore (pt : Option Nat) (cont : List Entry) : NoPanic (openCore pt cont) := by
  unfold openCore
  refine np_bind (np_ofOption _ _) fun _ => ?_
  refine np_bind (np_streamOf _ _) fun _ => np_bind (np_summary_read _) fun _ => np_bind (np_streamOf _ _) fun _ => ?_
  refine np_bind (np_readU32 _) fun _ => np_bind (np_ofOption _ _) fun _ => ?_
  refine np_bind (np_readEntries _ _ _) fun _ => np_bind (np_streamOf _ _) fun _ => np_bind (np_pool_read _ _) fun _ => ?_
  exact np_bind (np_openTables _ _ _ _) fun _ => np_pure _

/-- **`Package::open` never panics**, whatever the container holds and whatever class id
the root carries -/
theorem open_never_panics (pt : Option Nat) (cont : List Entry) : NoPanic (open_ pt cont) := by
  unfold open_
  intro w h
  split at h
  · cases h
  · cases h
  · rename_i w' hp
    exact np_openCore pt cont w' hp

/-- reading streams and listing them are total functions of the state (no panic outcome) -/
theorem stream_reads_never_panic (s : Pkg) (n : List Char) : NoPanic (readStream s n) := by
  unfold readStream
  exact np_ite (np_err _) (by split <;> exact np_val True.intro)

/-- non-vacuity: an empty container is simply refused; a null cell in `_Tables` is an error -/
example : open_ (some 0) [] = .err .notFound := by rfl

end MsiProofs.C09
