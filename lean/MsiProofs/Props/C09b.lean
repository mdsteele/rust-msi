import MsiProofs.Props.C09
import MsiProofs.Props.C13
import MsiProofs.Props.C05
import MsiProofs.Lemmas.Exec
import MsiProofs.Lemmas.PoolOps
/-
C09, mutating operations — `Delete::exec` never panics, on any package state whatsoever: the
rows `read_rows` returns have one cell per column, so indexing a row by a column of the table,
and writing the kept rows back, stay in range; the condition may only name columns the table has
(checked before anything is read).  `Insert::exec` and `Update::exec` have no panic outcome while
the string pool has room (the capacity `panic!` of `StringPool::incref`, finding D16b).
-/
namespace MsiProofs.C09
open MsiModel MsiModel.Bytes MsiModel.Pkg

/-- every row has `n` cells -/
def Width (n : Nat) (rows : List (List Cell)) : Prop := ∀ r ∈ rows, r.length = n

theorem Width.cons {n : Nat} {r : List Cell} {acc : List (List Cell)} (hr : r.length = n) (h : Width n acc) :
    Width n (r :: acc) := by
  intro x hx
  rcases List.mem_cons.mp hx with rfl | hx
  · exact hr
  · exact h x hx

theorem Width.tail {n : Nat} {r : List Cell} {rs : List (List Cell)} (h : Width n (r :: rs)) : Width n rs :=
  fun x hx => h x (List.mem_cons_of_mem _ hx)

theorem readColumn_width (long : Bool) (ty : ColType) (n : Nat) (rows : List (List Cell)) :
    ∀ (bs : Bytes) (acc rows' : List (List Cell)) (r : Bytes),
    Width n rows → Width (n + 1) acc → Table.readColumn long ty rows bs acc = .ok (rows', r) →
    Width (n + 1) rows' := by
  induction rows with
  | nil =>
    intro bs acc rows' r _ hacc h
    cases h
    exact fun x hx => hacc x (List.mem_reverse.mp hx)
  | cons row rest ih =>
    intro bs acc rows' r hrows hacc h
    obtain ⟨⟨c, r1⟩, -, h⟩ := Res.bind_eq_ok.mp h
    exact ih r1 ((row ++ [c]) :: acc) rows' r hrows.tail
      (Width.cons (by simp [hrows row List.mem_cons_self]) hacc) h

theorem readCols_width (long : Bool) (cols : List Column) :
    ∀ (n : Nat) (rows : List (List Cell)) (bs : Bytes) (out : List (List Cell)),
    Width n rows → Table.readCols long cols rows bs = .ok out → Width (n + cols.length) out := by
  induction cols with
  | nil =>
    intro n rows bs out hw h
    cases h
    exact hw
  | cons c cs ih =>
    intro n rows bs out hw h
    obtain ⟨⟨rows', r⟩, hc, h⟩ := Res.bind_eq_ok.mp h
    have hw' := readColumn_width long c.coltype n rows bs [] rows' r hw (fun _ hx => nomatch hx) hc
    have := ih (n + 1) rows' r out hw' h
    rwa [List.length_cons, Nat.add_comm cs.length, ← Nat.add_assoc]

/-- **every row `read_rows` returns has one cell per column** -/
theorem readRows_width (t : Table) (data : Bytes) (rows : List (List Cell)) (h : t.readRows data = .ok rows) :
    Width t.columns.length rows := by
  unfold Table.readRows at h
  simp only at h
  by_cases hbig : (if t.rowSize > 0 then data.length / t.rowSize else 0) > Gen.maxTableRows
  · rw [if_pos hbig] at h; cases h
  · rw [if_neg hbig] at h
    have := readCols_width t.longRefs t.columns 0 _ data rows
      (fun r hr => by rw [List.eq_of_mem_replicate hr]; rfl) h
    simpa using this

theorem loadRows_width (s : Pkg) (t : Table) (rows : List (List Cell)) (h : s.loadRows t = .ok rows) :
    Width t.columns.length rows := by
  unfold Pkg.loadRows at h
  split at h
  · exact readRows_width t _ rows h
  · simp only [pure, Res.ok.injEq] at h
    subst h
    intro r hr; simp at hr

/-! ### the condition -/

theorem hasColumn_mem (t : Table) (n : List Char) (h : t.hasColumn n = true) : n ∈ t.columns.map (·.name) := by
  unfold Table.hasColumn Table.indexOfColumn at h
  generalize t.columns.map (·.name) = names at h
  induction names with
  | nil => simp [Row.indexOf] at h
  | cons x xs ih =>
    simp only [Row.indexOf] at h
    by_cases hx : x = n
    · simp [hx]
    · simp only [hx, if_false, Option.isSome_map] at h
      simp [ih h]

theorem evalCond_np (t : Table) (p : Pool) (cond : Option Ast) (cells : List Cell)
    (hm : condMissing t cond = false) (hw : cells.length = t.columns.length) :
    NoPanic (evalCond t p cond cells) := by
  cases cond with
  | none => exact np_pure _
  | some e =>
    simp only [evalCond]
    have hm' : ∀ n ∈ e.columns, t.hasColumn n = true := by simpa [condMissing, missingColumns] using hm
    have hcols : ∀ n ∈ e.columns, n ∈ (mkRow t (rowValues p cells)).cols := fun n hn => hasColumn_mem t n (hm' n hn)
    obtain ⟨v, hv⟩ := MsiProofs.C13.eval_total e (mkRow t (rowValues p cells))
      (by simp [mkRow, rowValues, hw]) hcols
    rw [hv]
    exact np_pure _

theorem deleteGo_np (t : Table) (cond : Option Ast) (hm : condMissing t cond = false)
    (rows : List (List Cell)) : ∀ (p : Pool) (acc : List (List Cell)),
    Width t.columns.length rows → NoPanic (deleteGo t cond p rows acc) := by
  induction rows with
  | nil => intro p acc _; exact np_pure _
  | cons r rs ih =>
    intro p acc hw
    simp only [deleteGo]
    refine np_bind (evalCond_np t p cond r hm (hw r (by simp))) fun del => ?_
    have hw' : Width t.columns.length rs := fun x hx => hw x (by simp [hx])
    split
    · exact ih _ _ hw'
    · exact ih _ _ hw'

/-! ### writing rows back -/

theorem np_writeValue (long : Bool) (ty : ColType) (c : Cell) : NoPanic (ty.writeValue long c) := by
  cases ty with
  | str n =>
    cases c with
    | str r => exact np_ite (np_ok _) (np_ite (np_ok _) (np_err _))
    | _ => exact np_val True.intro
  | _ => cases c <;> exact np_val True.intro

theorem writeCol_np (long : Bool) (ty : ColType) (i : Nat) (rows : List (List Cell)) :
    ∀ (acc : Bytes), (∀ r ∈ rows, i < r.length) → NoPanic (Table.writeCol long ty i rows acc) := by
  induction rows with
  | nil => intro acc _; exact np_pure _
  | cons row rest ih =>
    intro acc h
    simp only [Table.writeCol]
    have hi := h row (by simp)
    have : row[i]? = some row[i] := by simp [hi]
    rw [this]
    exact np_bind (np_writeValue _ _ _) fun _ => ih _ (fun r hr => h r (by simp [hr]))

theorem writeCols_np (long : Bool) (rows : List (List Cell)) (cols : List Column) :
    ∀ (i : Nat) (acc : Bytes), (∀ r ∈ rows, i + cols.length ≤ r.length) →
    NoPanic (Table.writeCols long rows cols i acc) := by
  induction cols with
  | nil => intro i acc _; exact np_pure _
  | cons c cs ih =>
    intro i acc h
    simp only [Table.writeCols]
    refine np_bind (writeCol_np long c.coltype i rows acc (fun r hr => ?_)) fun _ => ih (i + 1) _ (fun r hr => ?_)
    · have := h r hr; simp only [List.length_cons] at this; omega
    · have := h r hr; simp only [List.length_cons] at this; omega

theorem storeRows_np (s : Pkg) (t : Table) (rows : List (List Cell)) (hw : Width t.columns.length rows) :
    NoPanic (storeRows s t rows).2 := by
  have hwr : NoPanic (t.writeRows rows) := by
    unfold Table.writeRows
    exact writeCols_np _ _ _ 0 [] (fun r hr => by rw [hw r hr]; omega)
  unfold storeRows
  cases hr : t.writeRows rows with
  | ok bs => exact np_ok _
  | err k => exact np_err _
  | panic w => exact absurd hr (hwr w)

theorem np_onTable {s : Pkg} {tn : List Char} {plan : Table → Res (Pool × List (List Cell))}
    (h : ∀ t, s.findTable tn = some t →
      NoPanic (plan t) ∧ ∀ pool' out, plan t = .ok (pool', out) → Width t.columns.length out) :
    NoPanic (Exec.onTable s tn plan).2 := by
  unfold Exec.onTable
  cases hf : s.findTable tn with
  | none => exact np_err _
  | some t =>
    show NoPanic (Exec.commit s t (plan t)).2
    cases hr : plan t with
    | ok x =>
      obtain ⟨pool', out⟩ := x
      exact storeRows_np _ t out ((h t hf).2 pool' out hr)
    | err k => exact np_err _
    | panic w => exact absurd hr ((h t hf).1 w)

/-- **`Delete::exec` never panics**: on any package state, for any table name and any condition -/
theorem delete_never_panics (s : Pkg) (tname : List Char) (cond : Option Ast) :
    NoPanic (deleteExec s tname cond).2 := by
  rw [Exec.deleteExec_eq]
  refine np_onTable fun t _ => ⟨?_, fun pool' out h => ?_⟩
  · unfold Exec.deletePlan
    by_cases hm : condMissing t cond = true
    · rw [if_pos hm]; exact np_err _
    · rw [if_neg hm]
      exact np_bind' (np_loadRows s t) fun rows hl =>
        deleteGo_np t cond (by simpa using hm) rows s.pool [] (loadRows_width s t rows hl)
  · obtain ⟨rows, -, hl, hd⟩ := Exec.deletePlan_ok.mp h
    obtain ⟨kept, hsub, rfl⟩ := LoopSpecs.deleteGo_sublist hd
    exact fun r hr => loadRows_width s t rows hl r (hsub.subset hr)


end MsiProofs.C09

/-! ### `Insert::exec`: no panic while the string pool has room

The one panic the model has on this path that is reachable (known finding D16b) is the capacity
`panic!` of `StringPool::incref`.  `Room p n` says the pool can take `n` more strings; with room
for one string per cell of the batch, `Insert::exec` has no panic outcome: the
`unreachable!`-style branch after the duplicate check really is unreachable, and the rows written
back have one cell per column. -/
namespace MsiProofs.C09
open MsiModel MsiModel.Bytes MsiModel.Pkg MsiProofs.Order

/-- the pool can take `n` more strings without reaching the two-byte reference limit -/
def Room (p : Pool) (n : Nat) : Prop := p.strings.length + n ≤ 65535

theorem Room.mono {p : Pool} {n m : Nat} (h : Room p n) (hm : m ≤ n) : Room p m := by
  unfold Room at *; omega

theorem Room.after {p p' : Pool} {n k : Nat} (h : Room p (n + k)) (g : p'.strings.length ≤ p.strings.length + k) :
    Room p' n := by
  unfold Room at *; omega

theorem incref_grow (p : Pool) (s : List Char) (p' : Pool) (r : Nat) (h : p.incref s = .ok (p', r)) :
    p'.strings.length ≤ p.strings.length + 1 := by
  rcases PoolOps.incref_eq_ok h with ⟨j, e, -, -, ⟨-, rfl⟩ | ⟨-, -, -, rfl⟩⟩ | ⟨-, -, -, -, rfl⟩
  · simp
  · simp
  · simp

theorem incref_room (p : Pool) (s : List Char) (n : Nat) (h : Room p (n + 1)) :
    ∃ p' r, p.incref s = .ok (p', r) ∧ Room p' n := by
  cases hi : p.incref s with
  | ok x => exact ⟨x.1, x.2, rfl, h.after (incref_grow p s x.1 x.2 hi)⟩
  | err k => exact absurd hi (PoolOps.incref_ne_err p s k)
  | panic w =>
    -- the two capacity panics need a pool at least `maxShortRefStrings` long
    unfold Pool.incref at hi
    have e1 : Gen.maxShortRefStrings = 65535 := rfl
    have e2 : Gen.maxStringRef = 16777215 := rfl
    unfold Room at h
    split at hi
    · cases hi
    · rw [if_neg (by rw [e1]; omega), if_neg (by rw [e2]; omega)] at hi
      cases hi

theorem create_room (p : Pool) (v : Value) (n : Nat) (h : Room p (n + 1)) :
    ∃ p' c, Cell.create p v = .ok (p', c) ∧ Room p' n := by
  cases v with
  | null => exact ⟨p, .null, rfl, h.mono (by omega)⟩
  | int i => exact ⟨p, .int i, rfl, h.mono (by omega)⟩
  | str s =>
    obtain ⟨p', r, hi, hr⟩ := incref_room p s n h
    exact ⟨p', .str r, by simp [Cell.create, hi, bind, Res.bind, pure], hr⟩

theorem createCells_room (vs : List Value) : ∀ (p : Pool) (acc : List Cell) (k : Nat), Room p (k + vs.length) →
    ∃ p' cs, createCells p vs acc = .ok (p', cs) ∧ Room p' k ∧ cs.length = acc.length + vs.length := by
  induction vs with
  | nil => intro p acc k h; exact ⟨p, acc.reverse, rfl, by simpa using h, by simp⟩
  | cons v rest ih =>
    intro p acc k h
    obtain ⟨p1, c, hc, hr⟩ := create_room p v (k + rest.length) (by simpa [Nat.add_assoc] using h)
    obtain ⟨p', cs, h1, h2, h3⟩ := ih p1 (c :: acc) k hr
    refine ⟨p', cs, ?_, h2, by simp [h3]; omega⟩
    simp only [createCells, hc, bind, Res.bind]
    exact h1

theorem mapContains_iff (k : List Value) (m : RowMap) : mapContains k m = true ↔ ∃ e ∈ m, e.1 = k := by
  unfold mapContains
  rw [List.any_eq_true]
  constructor
  · rintro ⟨e, he, hc⟩
    simp only [Bool.and_eq_true, Bool.not_eq_true'] at hc
    exact ⟨e, he, (keyLt_connected hc.1 hc.2).symm⟩
  · rintro ⟨e, he, rfl⟩
    exact ⟨e, he, by simp [keyLt_irrefl]⟩

theorem checkNew_none (keyIdx : List Nat) (m : RowMap) (rows : List (List Value)) :
    ∀ seen, checkNew keyIdx m rows seen = none →
      (∀ r ∈ rows, mapContains (keyOf keyIdx r) m = false ∧ keyOf keyIdx r ∉ seen) ∧
      (rows.map (keyOf keyIdx)).Pairwise (· ≠ ·) := by
  induction rows with
  | nil => intro seen _; exact ⟨fun _ h => by simp at h, by simp⟩
  | cons r rs ih =>
    intro seen h
    simp only [checkNew] at h
    split at h
    · cases h
    · rename_i h1
      split at h
      · cases h
      · rename_i h2
        obtain ⟨ha, hb⟩ := ih _ h
        refine ⟨?_, ?_⟩
        · intro x hx
          simp only [List.mem_cons] at hx
          rcases hx with rfl | hx
          · exact ⟨by simpa using h1, by simpa using h2⟩
          · exact ⟨(ha x hx).1, fun hm => (ha x hx).2 (by simp [hm])⟩
        · simp only [List.map_cons, List.pairwise_cons]
          refine ⟨?_, hb⟩
          intro k hk
          obtain ⟨x, hx, rfl⟩ := List.mem_map.mp hk
          intro e
          exact (ha x hx).2 (by simp [e])

theorem addRows_room (keyIdx : List Nat) (ncols : Nat) (rows : List (List Value)) :
    ∀ (p : Pool) (m : RowMap), Sorted m →
    (∀ r ∈ rows, mapContains (keyOf keyIdx r) m = false) → (rows.map (keyOf keyIdx)).Pairwise (· ≠ ·) →
    (∀ r ∈ rows, r.length = ncols) → (∀ e ∈ m, e.2.length = ncols) →
    Room p (rows.length * ncols) →
    ∃ p' m', addRows keyIdx p rows m = .ok (p', m') ∧ (∀ e ∈ m', e.2.length = ncols) := by
  induction rows with
  | nil => intro p m _ _ _ _ hw _; exact ⟨p, m, rfl, hw⟩
  | cons r rs ih =>
    intro p m hs hnot hdist hlen hw hroom
    have hr := hlen r (by simp)
    obtain ⟨p1, cells, hc, hroom1, hcl⟩ := createCells_room r p [] (rs.length * ncols)
      (by rw [hr, ← Nat.succ_mul]; exact hroom)
    have hins : mapInsert (keyOf keyIdx r) cells m ≠ none := by
      intro hnone
      have := (mapInsert_none_iff hs).mp hnone
      rw [hnot r (by simp)] at this
      cases this
    cases hm : mapInsert (keyOf keyIdx r) cells m with
    | none => exact absurd hm hins
    | some m1 =>
      obtain ⟨hs1, hmem⟩ := mapInsert_sorted hs hm
      simp only [List.map_cons, List.pairwise_cons] at hdist
      obtain ⟨p', m', h1, h2⟩ := ih p1 m1 hs1
        (by
          intro x hx
          cases hc' : mapContains (keyOf keyIdx x) m1 with
          | false => rfl
          | true =>
            obtain ⟨e, he, hek⟩ := (mapContains_iff _ _).mp hc'
            rcases (hmem e).mp he with rfl | he
            · exact absurd hek (hdist.1 _ (List.mem_map.mpr ⟨x, hx, rfl⟩))
            · have : mapContains (keyOf keyIdx x) m = true := (mapContains_iff _ _).mpr ⟨e, he, hek⟩
              rw [hnot x (by simp [hx])] at this
              cases this)
        hdist.2 (fun x hx => hlen x (by simp [hx]))
        (by
          intro e he
          rcases (hmem e).mp he with rfl | he
          · simp [hcl, hr]
          · exact hw e he)
        hroom1
      refine ⟨p', m', ?_, h2⟩
      simp only [addRows, hc, bind, Res.bind, hm]
      exact h1

theorem all_length_of_not_any {α} {rows : List (List α)} {n : Nat}
    (h : ¬ (rows.any fun r => r.length ≠ n) = true) : ∀ r ∈ rows, r.length = n := fun r hr =>
  Decidable.byContradiction fun hne => h (List.any_eq_true.mpr ⟨r, hr, by simpa using hne⟩)

/-- `Insert::exec` has no panic outcome while the pool has room for one string per new cell (room
is needed only when the rows have the table's arity) -/
theorem insert_never_panics' (s : Pkg) (tname : List Char) (rows : List (List Value))
    (hroom : ∀ t, s.findTable tname = some t → (∀ r ∈ rows, r.length = t.columns.length) →
      Room s.pool (rows.length * t.columns.length)) :
    NoPanic (insertExec s tname rows).2 := by
  unfold insertExec
  cases hf : s.findTable tname with
  | none => exact np_err _
  | some t =>
    simp only
    by_cases h1 : (rows.any fun r => r.length ≠ t.columns.length) = true
    · rw [if_pos h1]; exact np_err _
    rw [if_neg h1]
    split; · exact np_err _
    cases hl : s.loadRows t with
    | err k => exact np_err _
    | panic w => exact absurd hl (np_loadRows s t w)
    | ok existing =>
      simp only
      have hw := loadRows_width s t existing hl
      cases hm : loadMap s.pool t.keyIndices existing [] with
      | none => exact np_err _
      | some m =>
        simp only
        have hsm : Sorted m := MsiProofs.C05.loadMap_sorted (by simp [Sorted]) hm
        cases hc : checkNew t.keyIndices m (rows.map fun r => r.map storable) [] with
        | some k => exact np_err _
        | none =>
          simp only
          split; · exact np_err _
          obtain ⟨hnot, hdist⟩ := checkNew_none _ _ _ _ hc
          have hlen0 := all_length_of_not_any h1
          have hlen : ∀ r ∈ rows.map (fun r => r.map storable), r.length = t.columns.length := by
            intro r hr
            obtain ⟨x, hx, rfl⟩ := List.mem_map.mp hr
            rw [List.length_map, hlen0 x hx]
          have hmw : ∀ e ∈ m, e.2.length = t.columns.length := by
            intro e he
            exact hw _ ((LoopSpecs.loadMap_nil hm).1.mem_iff.mp (List.mem_map_of_mem he))
          obtain ⟨p', m', ha, hw'⟩ := addRows_room t.keyIndices t.columns.length _ s.pool m hsm
            (fun r hr => (hnot r hr).1) hdist hlen hmw
            (by rw [List.length_map]; exact hroom t hf hlen0)
          rw [ha]
          simp only
          apply storeRows_np
          intro r hr
          obtain ⟨e, he, rfl⟩ := List.mem_map.mp hr
          exact hw' e he

/-- **`Insert::exec` has no panic outcome while the pool has room for one string per new cell** -/
theorem insert_never_panics (s : Pkg) (tname : List Char) (rows : List (List Value))
    (hroom : ∀ t, s.findTable tname = some t → Room s.pool (rows.length * t.columns.length)) :
    NoPanic (insertExec s tname rows).2 :=
  insert_never_panics' s tname rows fun t h _ => hroom t h

end MsiProofs.C09

/-! ### `Update::exec` -/
namespace MsiProofs.C09
open MsiModel MsiModel.Bytes MsiModel.Pkg MsiProofs.Order

theorem remove_room (p : Pool) (c : Cell) (n : Nat) (h : Room p n) : Room (Cell.remove p c) n := by
  cases c with
  | str r => unfold Room at *; simp only [Cell.remove, PoolOps.decref_length]; exact h
  | null => exact h
  | int i => exact h

theorem cellsUpd_room (us : List (Nat × Value)) : ∀ (p : Pool) (cells : List Cell) (k : Nat),
    Room p (k + us.length) →
    ∃ p' cells', cellsUpd p cells us = .ok (p', cells') ∧ Room p' k ∧ cells'.length = cells.length := by
  induction us with
  | nil => intro p cells k h; exact ⟨p, cells, rfl, by simpa using h, rfl⟩
  | cons u rest ih =>
    intro p cells k h
    obtain ⟨i, v⟩ := u
    have h1 : Room (Cell.remove p (cells.getD i .null)) (k + rest.length + 1) :=
      remove_room _ _ _ (by simpa [Nat.add_assoc] using h)
    obtain ⟨p2, c, hc, hr⟩ := create_room _ v (k + rest.length) h1
    obtain ⟨p', cells', h2, h3, h4⟩ := ih p2 (cells.set i c) k hr
    refine ⟨p', cells', ?_, h3, by simpa using h4⟩
    simp only [cellsUpd, bind, Res.bind]
    rw [hc]
    exact h2

theorem updApply_room (ups : List (Nat × Value)) (n : Nat) (rows : List (List Cell)) :
    ∀ (p : Pool) (pl : List (List Value × Bool)) (acc : List (List Cell)),
    Width n rows → Width n acc → Room p (rows.length * ups.length) →
    ∃ p' rows', updApply ups p rows pl acc = .ok (p', rows') ∧ Width n rows' := by
  induction rows with
  | nil => intro p pl acc _ hacc _; exact ⟨p, acc.reverse, rfl, fun r hr => hacc r (List.mem_reverse.mp hr)⟩
  | cons r rs ih =>
    intro p pl acc hw hacc hroom
    have hrw := hw r (by simp)
    have hws : Width n rs := hw.tail
    cases pl with
    | nil =>
      refine ⟨p, (r :: acc).reverse ++ rs, rfl, ?_⟩
      intro x hx
      simp only [List.mem_append, List.mem_reverse, List.mem_cons] at hx
      rcases hx with (rfl | hx) | hx
      · exact hrw
      · exact hacc x hx
      · exact hws x hx
    | cons e pl' =>
      obtain ⟨vs, m⟩ := e
      cases m with
      | false =>
        obtain ⟨p', rows', h1, h2⟩ := ih p pl' (r :: acc) hws (Width.cons hrw hacc)
          (hroom.mono (Nat.mul_le_mul_right _ (Nat.le_succ _)))
        exact ⟨p', rows', by simp only [updApply, Bool.false_eq_true, if_false]; exact h1, h2⟩
      | true =>
        obtain ⟨p1, cells', hc, hr1, hl1⟩ := cellsUpd_room ups p r (rs.length * ups.length)
          (by rw [← Nat.succ_mul]; exact hroom)
        obtain ⟨p', rows', h1, h2⟩ := ih p1 pl' (cells' :: acc) hws (Width.cons (hl1.trans hrw) hacc) hr1
        refine ⟨p', rows', ?_, h2⟩
        simp only [updApply, if_true, bind, Res.bind, hc]
        exact h1

theorem updPlan_np (t : Table) (p : Pool) (cond : Option Ast) (hm : condMissing t cond = false)
    (ups : List (Nat × Value)) (rows : List (List Cell)) : ∀ (acc : List (List Value × Bool)),
    Width t.columns.length rows → NoPanic (updPlan t p cond ups rows acc) := by
  induction rows with
  | nil => intro acc _; exact np_pure _
  | cons r rs ih =>
    intro acc hw
    simp only [updPlan]
    exact np_bind (evalCond_np t p cond r hm (hw r (by simp))) fun _ => ih _ (fun x hx => hw x (by simp [hx]))

theorem writeOrder_lt {t : Table} {us : List (Nat × Value)} {planned : List (List Value × Bool)} {n i : Nat}
    (hi : i ∈ Exec.writeOrder t us planned n) : i < n := by
  unfold Exec.writeOrder at hi
  split at hi
  · exact List.mem_range.mp ((MsiProofs.C05.sortByKey_perm _ (List.range n)).mem_iff.mp hi)
  · exact List.mem_range.mp hi

/-- **`Update::exec` has no panic outcome while the pool has room for one string per assignment
and stored row** -/
theorem update_never_panics (s : Pkg) (tname : List Char) (ups : List (List Char × Value)) (cond : Option Ast)
    (hroom : ∀ t rows, s.findTable tname = some t → s.loadRows t = .ok rows →
      Room s.pool (rows.length * ups.length)) :
    NoPanic (updateExec s tname ups cond).2 := by
  rw [Exec.updateExec_eq]
  -- with room, applying the planned assignments succeeds and keeps the rows' width and number
  have apply_ok : ∀ t rows planned, s.findTable tname = some t → s.loadRows t = .ok rows →
      ∃ p' rows', updApply (Exec.upsOf t ups) s.pool rows planned [] = .ok (p', rows') ∧
        Width t.columns.length rows' ∧ rows'.length = rows.length := by
    intro t rows planned hf hl
    obtain ⟨p', rows', ha, hw'⟩ := updApply_room (Exec.upsOf t ups) t.columns.length rows s.pool planned []
      (loadRows_width s t rows hl) (fun _ hx => nomatch hx)
      ((hroom t rows hf hl).mono (Nat.mul_le_mul_left _ (List.length_filterMap_le _ _)))
    exact ⟨p', rows', ha, hw', (LoopSpecs.updApply_length ha).trans (Nat.zero_add _)⟩
  refine np_onTable fun t hf => ⟨?_, fun pool' out h => ?_⟩
  · unfold Exec.updatePlan
    cases validateUpdates t ups with
    | some k => exact np_err _
    | none =>
      by_cases hm : condMissing t cond = true
      · simp only [hm, if_true]; exact np_err _
      simp only [hm]
      refine np_bind' (np_loadRows s t) fun rows hl =>
        np_bind (updPlan_np t s.pool cond (by simpa using hm) _ rows [] (loadRows_width s t rows hl)) fun planned =>
        np_ite (np_err _) ?_
      obtain ⟨p', rows', ha, -, -⟩ := apply_ok t rows planned hf hl
      rw [ha]
      exact np_pure _
  · obtain ⟨rows, planned, rows', -, -, hl, -, -, ha, rfl⟩ := Exec.updatePlan_ok.mp h
    obtain ⟨p'', rows'', ha', hw', hl'⟩ := apply_ok t rows planned hf hl
    cases ha.symm.trans ha'
    intro r hr
    obtain ⟨i, hi, rfl⟩ := List.mem_map.mp hr
    have hrange : i < rows'.length := hl' ▸ writeOrder_lt hi
    have : rows'.getD i [] = rows'[i] := by simp [List.getD, hrange]
    rw [this]
    exact hw' _ (List.getElem_mem hrange)

end MsiProofs.C09
