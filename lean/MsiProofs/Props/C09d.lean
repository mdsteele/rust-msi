import MsiProofs.Props.C09c
import MsiModel.Gen.Api
/-
C09 quantifies over EVERY operation of the API.  The vocabulary of requests the harness issues
and the operations the model implements were written for the public functions listed here;
`Gen/Api.lean` is regenerated from the source on every run, so a public function that is added,
removed or renamed breaks this obligation until the harness and the model have been reviewed for
it (and this list updated).  Functions the harness does not call are marked in
coverage/uncovered.txt (source-coverage run of the harness).
-/
namespace MsiProofs.C09
open MsiModel

def expectedApi : List (String × String) := [
  ("lib.rs", "open"),
  ("lib.rs", "open_rw"),
  ("category.rs", "validate"),
  ("codepage.rs", "from_id"),
  ("codepage.rs", "id"),
  ("codepage.rs", "name"),
  ("codepage.rs", "decode"),
  ("codepage.rs", "encode"),
  ("column.rs", "build"),
  ("column.rs", "name"),
  ("column.rs", "coltype"),
  ("column.rs", "is_localizable"),
  ("column.rs", "is_nullable"),
  ("column.rs", "is_primary_key"),
  ("column.rs", "value_range"),
  ("column.rs", "category"),
  ("column.rs", "enum_values"),
  ("column.rs", "is_valid_value"),
  ("column.rs", "localizable"),
  ("column.rs", "nullable"),
  ("column.rs", "primary_key"),
  ("column.rs", "range"),
  ("column.rs", "foreign_key"),
  ("column.rs", "category"),
  ("column.rs", "enum_values"),
  ("column.rs", "int16"),
  ("column.rs", "int32"),
  ("column.rs", "string"),
  ("column.rs", "id_string"),
  ("column.rs", "text_string"),
  ("column.rs", "formatted_string"),
  ("column.rs", "binary"),
  ("expr.rs", "col"),
  ("expr.rs", "null"),
  ("expr.rs", "boolean"),
  ("expr.rs", "integer"),
  ("expr.rs", "string"),
  ("expr.rs", "eq"),
  ("expr.rs", "ne"),
  ("expr.rs", "lt"),
  ("expr.rs", "le"),
  ("expr.rs", "gt"),
  ("expr.rs", "ge"),
  ("expr.rs", "bitinv"),
  ("expr.rs", "and"),
  ("expr.rs", "or"),
  ("expr.rs", "not"),
  ("expr.rs", "eval"),
  ("expr.rs", "column_names"),
  ("language.rs", "from_code"),
  ("language.rs", "from_tag"),
  ("language.rs", "code"),
  ("language.rs", "tag"),
  ("package.rs", "package_type"),
  ("package.rs", "summary_info"),
  ("package.rs", "database_codepage"),
  ("package.rs", "has_table"),
  ("package.rs", "get_table"),
  ("package.rs", "tables"),
  ("package.rs", "has_stream"),
  ("package.rs", "streams"),
  ("package.rs", "has_digital_signature"),
  ("package.rs", "into_inner"),
  ("package.rs", "open"),
  ("package.rs", "select_rows"),
  ("package.rs", "read_stream"),
  ("package.rs", "create"),
  ("package.rs", "summary_info_mut"),
  ("package.rs", "set_database_codepage"),
  ("package.rs", "create_table"),
  ("package.rs", "drop_table"),
  ("package.rs", "delete_rows"),
  ("package.rs", "insert_rows"),
  ("package.rs", "update_rows"),
  ("package.rs", "write_stream"),
  ("package.rs", "remove_stream"),
  ("package.rs", "remove_digital_signature"),
  ("package.rs", "flush"),
  ("query.rs", "from"),
  ("query.rs", "with"),
  ("query.rs", "into"),
  ("query.rs", "row"),
  ("query.rs", "rows"),
  ("query.rs", "table"),
  ("query.rs", "inner_join"),
  ("query.rs", "left_join"),
  ("query.rs", "columns"),
  ("query.rs", "with"),
  ("query.rs", "table"),
  ("query.rs", "set"),
  ("query.rs", "with"),
  ("summary.rs", "arch"),
  ("summary.rs", "set_arch"),
  ("summary.rs", "clear_arch"),
  ("summary.rs", "author"),
  ("summary.rs", "set_author"),
  ("summary.rs", "clear_author"),
  ("summary.rs", "codepage"),
  ("summary.rs", "set_codepage"),
  ("summary.rs", "comments"),
  ("summary.rs", "set_comments"),
  ("summary.rs", "clear_comments"),
  ("summary.rs", "creating_application"),
  ("summary.rs", "set_creating_application"),
  ("summary.rs", "clear_creating_application"),
  ("summary.rs", "creation_time"),
  ("summary.rs", "set_creation_time"),
  ("summary.rs", "set_creation_time_to_now"),
  ("summary.rs", "clear_creation_time"),
  ("summary.rs", "languages"),
  ("summary.rs", "set_languages"),
  ("summary.rs", "clear_languages"),
  ("summary.rs", "subject"),
  ("summary.rs", "set_subject"),
  ("summary.rs", "clear_subject"),
  ("summary.rs", "title"),
  ("summary.rs", "set_title"),
  ("summary.rs", "clear_title"),
  ("summary.rs", "uuid"),
  ("summary.rs", "set_uuid"),
  ("summary.rs", "clear_uuid"),
  ("summary.rs", "word_count"),
  ("summary.rs", "set_word_count"),
  ("summary.rs", "clear_word_count"),
  ("table.rs", "name"),
  ("table.rs", "columns"),
  ("table.rs", "has_column"),
  ("table.rs", "get_column"),
  ("table.rs", "primary_key_indices"),
  ("table.rs", "len"),
  ("table.rs", "is_empty"),
  ("table.rs", "columns"),
  ("table.rs", "has_column"),
  ("table.rs", "columns"),
  ("value.rs", "is_null"),
  ("value.rs", "is_int"),
  ("value.rs", "as_int"),
  ("value.rs", "is_str"),
  ("value.rs", "as_str"),
  ("value.rs", "create"),
  ("value.rs", "remove"),
  ("value.rs", "to_value")]

/-- **the public API is the one the requests and the model were written for** -/
theorem api_surface : Gen.publicApi = expectedApi := rfl

end MsiProofs.C09
