import MsiModel.Summary
import MsiProofs.Lemmas.PropSetLayout
import MsiProofs.Lemmas.AsciiSavable
/-
C10 — summary information survives saving, in every code page.
Here: the property-set writer is well-formed for every property set and every code page
codec: each value occupies exactly the number of bytes the offset table assumes, a
multiple of four, so every offset points at its typed, 4-byte-aligned value and the
section size is exact; the setters are last-write-wins and the cached code page follows
property 1; and the READER ROUND TRIP: every well-formed property set is written and read back
as itself (`propset_roundtrip`), the string codec being a parameter that must round-trip the
strings (the contract of `encoding_rs` that C14 decides).
-/
namespace MsiProofs.C10
open MsiModel MsiModel.Bytes

theorem u16le_length (n : Nat) : (u16le n).length = 2 := rfl
theorem u32le_length (n : Nat) : (u32le n).length = 4 := rfl
theorem u64le_length (n : Nat) : (u64le n).length = 8 := rfl

/-- **each value is written in exactly `size` bytes, a multiple of four** — with the
*encoded* length of strings (the defect this replaced measured the UTF-8 length) -/
theorem value_size_exact (cp : Nat) (v : PropVal) (bs : Bytes) (h : v.write cp = .ok bs) :
    v.size cp = .ok bs.length ∧ bs.length % 4 = 0 :=
  PropSetCodec.value_size_aligned cp v bs h

/-- the type tag at the start of every written value is the one the reader dispatches on -/
theorem value_tag (cp : Nat) (v : PropVal) (bs : Bytes) (h : v.write cp = .ok bs) :
    ∃ rest, bs = u32le (match v with
      | .empty => 0 | .null => 1 | .i2 _ => 2 | .i4 _ => 3 | .i1 _ => 16 | .lpstr _ => 30 | .fileTime _ => 64) ++ rest := by
  cases v with
  | lpstr s =>
    simp only [PropVal.write] at h
    cases he : Codec.encode cp s with
    | none => simp [he] at h
    | some enc => simp only [he] at h; cases h; exact ⟨_, by simp only [List.append_assoc]; rfl⟩
  | _ => cases h; exact ⟨_, rfl⟩

theorem find?_key_cons {β} (a : Nat) (v : β) (l : List (Nat × β)) (k : Nat) :
    ((a, v) :: l).find? (·.1 == k) = if k = a then some (a, v) else l.find? (·.1 == k) := by
  by_cases h : k = a
  · simp [h]
  · simp [h, Ne.symm h]

theorem find?_insertSorted (id : Nat) (v : PropVal) (ps : List (Nat × PropVal)) (k : Nat) :
    (PropSet.insertSorted id v ps).find? (·.1 == k) = if k = id then some (id, v) else ps.find? (·.1 == k) := by
  fun_induction PropSet.insertSorted id v ps with
  | case1 => rw [find?_key_cons]
  | case2 k' w rest hlt => rw [find?_key_cons]
  | case3 w rest hnlt =>
    rw [find?_key_cons, find?_key_cons]
    split <;> rfl
  | case4 k' w rest hnlt hne ih =>
    rw [find?_key_cons, find?_key_cons, ih]
    split
    · rw [if_neg (by omega)]
    · rfl

/-- setters: the last value set for a property is the one read; other properties are untouched -/
theorem insertSorted_get (id : Nat) (v : PropVal) (ps : List (Nat × PropVal)) (k : Nat) :
    ((PropSet.insertSorted id v ps).find? (·.1 == k)).map (·.2) =
      if k = id then some v else (ps.find? (·.1 == k)).map (·.2) := by
  rw [find?_insertSorted]
  split <;> rfl

theorem set_get (p : PropSet) (id : Nat) (v : PropVal) (k : Nat) :
    (p.set id v).get k = if k = id then some v else p.get k := by
  simp only [PropSet.set, PropSet.get]
  exact insertSorted_get id v p.props k

theorem remove_get (p : PropSet) (id k : Nat) :
    (p.remove id).get k = if k = id then none else p.get k := by
  simp only [PropSet.remove, PropSet.get, List.find?_filter]
  by_cases h : k = id
  · subst h
    simp
  · -- a key other than the removed one passes the filter
    have : (fun a : Nat × PropVal => decide ((a.1 != id) = true ∧ (a.1 == k) = true)) = fun a => a.1 == k := by
      funext a
      by_cases ha : a.1 = k <;> simp [ha, h]
    rw [if_neg h, this]

/-- every ordered pair of supported code pages: set the first, then the second -/
def cpFollowsAll : Bool :=
  (List.range Gen.cpVariants.length).all fun cp0 => (List.range Gen.cpVariants.length).all fun cp =>
    match ((PropSet.new 2 10 []).setCodepage Profile.dev cp0).bind (fun p => p.setCodepage Profile.dev cp) with
    | .ok p => p.codepage == cp
    | _ => false

/-- **the code page in use is the one last set**: setting property 1 through
`set_codepage` updates the cached page for every ordered pair of supported pages (no
debug-assertion panic), including back to UTF-8, whose identifier does not fit a signed
16-bit number (table fact, re-decided on the regenerated ids) -/
theorem codepage_follows_set : cpFollowsAll = true := by decide +kernel

example : (PropVal.lpstr "éé".toList).write PropSet.utf8 =
    .ok ([30, 0, 0, 0, 5, 0, 0, 0, 0xC3, 0xA9, 0xC3, 0xA9, 0, 0, 0, 0]) := by decide +kernel


/-! ### reader round trip -/
open MsiProofs.PropSetCodec

/-- **read (write p) = p** for every well-formed property set: header fields, code page, every
property and value; strings under any code page whose codec round-trips them -/
def propset_roundtrip := @MsiProofs.PropSetCodec.propset_roundtrip
/-- one value: read (write v) = v whatever follows it -/
def val_roundtrip := @MsiProofs.PropSetCodec.val_roundtrip

/-- non-vacuity: a property set with a code page entry (UTF-8: identifier 65001 stored as the
16-bit number -535), a string, a timestamp and a 32-bit integer is well-formed -/
def demo : PropSet :=
  { os := 2, osVersion := 10, clsid := List.replicate 16 0, fmtid := List.replicate 16 7,
    codepage := PropSet.utf8,
    props := [(1, .i2 (-535)), (2, .lpstr "Title".toList), (12, .fileTime 132223104000000000), (14, .i4 200)] }

theorem demo_wf : WF demo where
  os := by decide +kernel
  osVersion := by decide +kernel
  clsid := by decide +kernel
  fmtid := by decide +kernel
  asc := by decide +kernel
  ids := by decide +kernel
  vals := by
    intro kv hkv
    simp only [demo, List.mem_cons, List.mem_nil_iff, or_false] at hkv
    rcases hkv with rfl | rfl | rfl | rfl
    · exact ⟨by decide, by decide⟩
    · exact ⟨_, rfl, by decide, by decide⟩
    · show (132223104000000000 : Nat) < 18446744073709551616; decide
    · exact ⟨by decide, by decide⟩
  cp := by
    show CodePage.fromId _ = some _
    decide
  size := by
    intro vbs h
    obtain _ | @⟨_, _, b1, _, _, h1, h⟩ := h
    obtain _ | @⟨_, _, b2, _, _, h2, h⟩ := h
    obtain _ | @⟨_, _, b3, _, _, h3, h⟩ := h
    obtain _ | @⟨_, _, b4, _, _, h4, h⟩ := h
    cases h
    cases h1; cases h3; cases h4
    have : b2.length = 16 := by
      have : (PropVal.lpstr "Title".toList).write PropSet.utf8 = .ok b2 := h2
      have h5 : (PropVal.lpstr "Title".toList).write PropSet.utf8 = .ok (u32le 30 ++ u32le 6 ++ [84, 105, 116, 108, 101] ++ [0] ++ [0,0]) := by decide +kernel
      rw [h5] at this
      cases this
      decide
    simp only [total, this, demo]
    decide

example : ∃ bytes, demo.write = .ok bytes ∧ PropSet.read bytes = .ok demo := propset_roundtrip demo demo_wf


/-- the codec hypothesis of the round trip is a theorem for ASCII strings under every code page -/
def valOk_ascii := @MsiProofs.AsciiSavable.valOk_ascii

end MsiProofs.C10
