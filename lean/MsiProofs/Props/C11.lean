import MsiModel.StreamName
/-
C11 — binary streams keep their names and contents, apart from the tables.
Here: the name codec (`streamname.rs`) — decode ∘ encode = id on every accepted name,
hence injectivity; the encoder never produces an invalid code point; encoded user names
are separated from the table marker, the special streams and the container's reserved
characters.  The stream *contents* part is in `C11b`, the listing in `C11c`.
-/
namespace MsiProofs.C11
open MsiModel MsiModel.StreamName

/-- the constants the lemmas below are proved for (re-decided against the regenerated file) -/
theorem constants :
    Gen.snPairBase = 0x3800 ∧ Gen.snSingleBase = 0x4800 ∧ Gen.snTablePrefix = 0x4840 ∧
    Gen.snMaxNameLen = 31 ∧ Gen.snReservedChars = [47, 92, 58, 33] ∧
    Gen.snReservedRange = some (0x3800, 0x4840) := by decide

theorem toNat_ofNat_of_lt (n : Nat) (h : n < 0xD800) : (Char.ofNat n).toNat = n := by
  have hv : n.isValidChar := Or.inl h
  simp [Char.ofNat, hv, Char.ofNatAux, Char.toNat]

/-! ### the model functions with their constants written out, and inverted -/

theorem toB64_eq_some {c : Char} {v : Nat} (h : toB64 c = some v) :
    (48 ≤ c.toNat ∧ c.toNat ≤ 57 ∧ v = c.toNat - 48) ∨ (65 ≤ c.toNat ∧ c.toNat ≤ 90 ∧ v = 10 + c.toNat - 65) ∨
    (97 ≤ c.toNat ∧ c.toNat ≤ 122 ∧ v = 36 + c.toNat - 97) ∨ (c.toNat = 46 ∧ v = 62) ∨ (c.toNat = 95 ∧ v = 63) := by
  unfold toB64 at h
  dsimp only at h
  by_cases h1 : 48 ≤ c.toNat ∧ c.toNat ≤ 57
  · rw [if_pos h1] at h; cases h; exact Or.inl ⟨h1.1, h1.2, rfl⟩
  rw [if_neg h1] at h
  by_cases h2 : 65 ≤ c.toNat ∧ c.toNat ≤ 90
  · rw [if_pos h2] at h; cases h; exact Or.inr (Or.inl ⟨h2.1, h2.2, rfl⟩)
  rw [if_neg h2] at h
  by_cases h3 : 97 ≤ c.toNat ∧ c.toNat ≤ 122
  · rw [if_pos h3] at h; cases h; exact Or.inr (Or.inr (Or.inl ⟨h3.1, h3.2, rfl⟩))
  rw [if_neg h3] at h
  by_cases h4 : c.toNat = 46
  · rw [if_pos h4] at h; cases h; exact Or.inr (Or.inr (Or.inr (Or.inl ⟨h4, rfl⟩)))
  rw [if_neg h4] at h
  by_cases h5 : c.toNat = 95
  · rw [if_pos h5] at h; cases h; exact Or.inr (Or.inr (Or.inr (Or.inr ⟨h5, rfl⟩)))
  rw [if_neg h5] at h
  cases h

theorem inPackRange_iff {c : Char} : inPackRange c = true ↔ 14336 ≤ c.toNat ∧ c.toNat < 18496 :=
  decide_eq_true_iff

theorem decodeChar_eq (c : Char) : decodeChar c =
    if 14336 ≤ c.toNat ∧ c.toNat < 18432 then
      [fromB64 ((c.toNat - 14336) &&& 0x3f), fromB64 ((c.toNat - 14336) >>> 6)]
    else if 18432 ≤ c.toNat ∧ c.toNat < 18496 then [fromB64 (c.toNat - 18432)] else [c] := rfl

theorem isValid_iff {n : List Char} {t : Bool} : isValid n t = true ↔
    (n.isEmpty || (!t && n.head? == some tablePrefix)) = false ∧ n.any isReserved = false ∧
    utf16Len (encode n t) ≤ 31 := by
  unfold isValid
  cases (n.isEmpty || (!t && n.head? == some tablePrefix)) <;> cases n.any isReserved <;>
    simp only [Bool.false_eq_true, Bool.true_eq_false, if_true, if_false, decide_eq_true_eq, true_and, false_and,
      and_false]
  exact Iff.rfl

theorem not_reserved {c : Char} (h : ¬ isReserved c = true) :
    c.toNat ∉ Gen.snReservedChars ∧ inPackRange c = false := by
  unfold isReserved at h
  rw [constants.2.2.2.2.2] at h
  simp only [Bool.or_eq_true, not_or, List.contains_iff_mem, decide_eq_true_eq] at h
  exact ⟨h.1, Bool.eq_false_iff.mpr fun hp => h.2 (inPackRange_iff.mp hp)⟩

theorem toB64_lt {c : Char} {v : Nat} (h : toB64 c = some v) : v < 64 := by
  have := toB64_eq_some h
  omega

theorem fromB64_toB64 {c : Char} {v : Nat} (h : toB64 c = some v) : fromB64 v = c := by
  unfold fromB64
  rcases toB64_eq_some h with ⟨h1, h2, rfl⟩ | ⟨h1, h2, rfl⟩ | ⟨h1, h2, rfl⟩ | ⟨h1, rfl⟩ | ⟨h1, rfl⟩
  · rw [if_pos (by omega), show c.toNat - 48 + 48 = c.toNat by omega, Char.ofNat_toNat]
  · rw [if_neg (by omega), if_pos (by omega), show 10 + c.toNat - 65 - 10 + 65 = c.toNat by omega, Char.ofNat_toNat]
  · rw [if_neg (by omega), if_neg (by omega), if_pos (by omega),
      show 36 + c.toNat - 97 - 36 + 97 = c.toNat by omega, Char.ofNat_toNat]
  · rw [if_neg (by omega), if_neg (by omega), if_neg (by omega), if_pos rfl, ← h1, Char.ofNat_toNat]
  · rw [if_neg (by omega), if_neg (by omega), if_neg (by omega), if_neg (by omega), ← h1, Char.ofNat_toNat]

/-- **the encoder never fails**: every code point it builds with `char::from_u32(..).unwrap()`
is a valid scalar value (below the surrogates), for all 64 × 64 packed values -/
theorem encode_codepoints_valid (v1 v2 : Nat) (h1 : v1 < 64) (h2 : v2 < 64) :
    (Gen.snPairBase + v2 * 64 + v1).isValidChar ∧ (Gen.snSingleBase + v1).isValidChar := by
  obtain ⟨e1, e2, -⟩ := constants
  rw [e1, e2]
  exact ⟨Or.inl (by omega), Or.inl (by omega)⟩

theorem decodeChar_pair (v1 v2 : Nat) (h1 : v1 < 64) (h2 : v2 < 64) :
    decodeChar (Char.ofNat (Gen.snPairBase + v2 * 64 + v1)) = [fromB64 v1, fromB64 v2] := by
  rw [decodeChar_eq, constants.1, toNat_ofNat_of_lt _ (by omega), if_pos (by omega),
    show 14336 + v2 * 64 + v1 - 14336 = v2 * 64 + v1 by omega]
  have a : (v2 * 64 + v1) &&& 0x3f = v1 := by
    rw [show 0x3f = 2 ^ 6 - 1 from rfl, Nat.and_two_pow_sub_one_eq_mod]; omega
  have b : (v2 * 64 + v1) >>> 6 = v2 := by
    rw [Nat.shiftRight_eq_div_pow]; omega
  rw [a, b]

theorem decodeChar_single (v1 : Nat) (h1 : v1 < 64) :
    decodeChar (Char.ofNat (Gen.snSingleBase + v1)) = [fromB64 v1] := by
  rw [decodeChar_eq, constants.2.1, toNat_ofNat_of_lt _ (by omega), if_neg (by omega), if_pos (by omega),
    show 18432 + v1 - 18432 = v1 by omega]

theorem decodeChar_plain (c : Char) (h : inPackRange c = false) : decodeChar c = [c] := by
  have := mt inPackRange_iff.mpr (by rw [h]; exact Bool.false_ne_true)
  rw [decodeChar_eq, if_neg (by omega), if_neg (by omega)]

/-- **decode ∘ encode = id** on every name without characters from the packing range -/
theorem decodeAux_encodeAux (n : List Char) (h : ∀ c ∈ n, inPackRange c = false) :
    decodeAux (encodeAux n) = n := by
  have cons : ∀ {c : Char} {l l' : List Char}, decodeAux l = l' → decodeAux (c :: l) = decodeChar c ++ l' :=
    fun e => by rw [← e]; rfl
  induction n using encodeAux.induct with
  | case1 => rfl
  | case2 c1 v1 hv =>
    simp only [encodeAux, hv, decodeAux, List.flatMap_cons, List.flatMap_nil, List.append_nil]
    rw [decodeChar_single v1 (toB64_lt hv), fromB64_toB64 hv]
  | case3 c1 hv =>
    simp only [encodeAux, hv, decodeAux, List.flatMap_cons, List.flatMap_nil, List.append_nil]
    exact decodeChar_plain c1 (h c1 List.mem_cons_self)
  | case4 c1 c2 rest v1 hv1 v2 hv2 ih =>
    simp only [encodeAux, hv1, hv2]
    rw [cons (ih fun c hc => h c (List.mem_cons_of_mem _ (List.mem_cons_of_mem _ hc))),
      decodeChar_pair v1 v2 (toB64_lt hv1) (toB64_lt hv2), fromB64_toB64 hv1, fromB64_toB64 hv2]
    rfl
  | case5 c1 c2 rest v1 hv1 hv2 ih =>
    simp only [encodeAux, hv1, hv2]
    rw [cons (ih fun c hc => h c (List.mem_cons_of_mem _ hc)), decodeChar_single v1 (toB64_lt hv1), fromB64_toB64 hv1]
    rfl
  | case6 c1 c2 rest hv1 ih =>
    simp only [encodeAux, hv1]
    rw [cons (ih fun c hc => h c (List.mem_cons_of_mem _ hc)), decodeChar_plain c1 (h c1 List.mem_cons_self)]
    rfl

theorem isValid_no_pack {n : List Char} {t : Bool} (h : isValid n t = true) :
    ∀ c ∈ n, inPackRange c = false :=
  fun c hc => (not_reserved (List.any_eq_false.mp (isValid_iff.mp h).2.1 c hc)).2

/-- a valid stream name decodes back to itself (and is not taken for a table) -/
theorem decode_encode (n : List Char) (h : isValid n false = true) :
    decode (encode n false) = (n, false) := by
  have hd := decodeAux_encodeAux n (isValid_no_pack h)
  have hhead := (isValid_iff.mp h).1
  show decode (encodeAux n) = _
  cases he : encodeAux n with
  | nil =>
    rw [he] at hd
    cases hd
    cases hhead
  | cons c rest =>
    -- the head of the encoding is not the table marker: the marker decodes to itself, so the
    -- name would start with it
    have hne : c ≠ tablePrefix := by
      rintro rfl
      rw [he, show decodeAux (tablePrefix :: rest) = tablePrefix :: decodeAux rest from rfl] at hd
      rw [← hd] at hhead
      simp at hhead
    show (if c = tablePrefix then _ else _) = _
    rw [if_neg hne, ← he, hd]

/-- **injectivity**: two accepted names with the same encoding are the same name, so names
that differ never collide or alias in the container -/
theorem encode_injective (a b : List Char) (ha : isValid a false = true) (hb : isValid b false = true)
    (h : encode a false = encode b false) : a = b := by
  have h1 := decode_encode a ha
  have h2 := decode_encode b hb
  rw [h] at h1
  rw [h1] at h2
  exact (Prod.mk.inj h2).1

theorem encodeAux_chars (n : List Char) :
    ∀ c ∈ encodeAux n, (inPackRange c = true ∧ toB64 c = none) ∨ (c ∈ n ∧ toB64 c = none) := by
  obtain ⟨e1, e2, -⟩ := constants
  have packed : ∀ k, 14336 ≤ k → k < 18496 →
      inPackRange (Char.ofNat k) = true ∧ toB64 (Char.ofNat k) = none := by
    intro k h1 h2
    have ht := toNat_ofNat_of_lt k (by omega)
    refine ⟨inPackRange_iff.mpr (by omega), ?_⟩
    cases hv : toB64 (Char.ofNat k) with
    | none => rfl
    | some v => have := toB64_eq_some hv; omega
  induction n using encodeAux.induct with
  | case1 => exact fun c hc => nomatch hc
  | case2 c1 v1 hv =>
    simp only [encodeAux, hv, List.mem_singleton]
    rintro c rfl
    left; rw [e2]; exact packed _ (by omega) (by have := toB64_lt hv; omega)
  | case3 c1 hv =>
    simp only [encodeAux, hv]
    intro c hc
    cases List.mem_singleton.mp hc
    exact Or.inr ⟨hc, hv⟩
  | case4 c1 c2 rest v1 hv1 v2 hv2 ih =>
    simp only [encodeAux, hv1, hv2]
    intro c hc
    rcases List.mem_cons.mp hc with rfl | hc
    · left; rw [e1]
      have := toB64_lt hv1; have := toB64_lt hv2
      exact packed _ (by omega) (by omega)
    · exact (ih c hc).imp_right fun h => ⟨List.mem_cons_of_mem _ (List.mem_cons_of_mem _ h.1), h.2⟩
  | case5 c1 c2 rest v1 hv1 hv2 ih =>
    simp only [encodeAux, hv1, hv2]
    intro c hc
    rcases List.mem_cons.mp hc with rfl | hc
    · left; rw [e2]; have := toB64_lt hv1; exact packed _ (by omega) (by omega)
    · exact (ih c hc).imp_right fun h => ⟨List.mem_cons_of_mem _ h.1, h.2⟩
  | case6 c1 c2 rest hv1 ih =>
    simp only [encodeAux, hv1]
    intro c hc
    rcases List.mem_cons.mp hc with rfl | hc
    · exact Or.inr ⟨List.mem_cons_self, hv1⟩
    · exact (ih c hc).imp_right fun h => ⟨List.mem_cons_of_mem _ h.1, h.2⟩

theorem special_has_packable : ∀ s ∈ specialNames, ∃ c ∈ s, (toB64 c).isSome = true := by
  decide +kernel

/-- **separation**: the encoding of an accepted user stream name is never one of the
summary-information / digital-signature stream names, never starts with the table
marker, and contains none of the characters the container reserves -/
theorem separated (n : List Char) (h : isValid n false = true) :
    encode n false ∉ specialNames ∧
    (encode n false).head? ≠ some tablePrefix ∧
    (∀ c ∈ encode n false, c.toNat ∉ Gen.snReservedChars) ∧
    utf16Len (encode n false) ≤ 31 := by
  have henc : encode n false = encodeAux n := rfl
  obtain ⟨-, hres, hlen⟩ := isValid_iff.mp h
  refine ⟨?_, ?_, ?_, hlen⟩
  · intro hm
    obtain ⟨c, hc, hp⟩ := special_has_packable _ hm
    rcases encodeAux_chars n c (henc ▸ hc) with h1 | h1 <;> rw [h1.2] at hp <;> cases hp
  · intro hh
    have := decode_encode n h
    cases he : encode n false with
    | nil => rw [he] at hh; cases hh
    | cons c rest =>
      rw [he] at hh this
      cases hh
      change (if tablePrefix = tablePrefix then (decodeAux rest, true) else (decodeAux (tablePrefix :: rest), false)) = _
        at this
      rw [if_pos rfl] at this
      cases (Prod.mk.inj this).2
  · intro c hc
    rcases encodeAux_chars n c (henc ▸ hc) with h1 | h1
    · have := inPackRange_iff.mp h1.1
      rw [constants.2.2.2.2.1]
      simp only [List.mem_cons, List.not_mem_nil, or_false]
      omega
    · exact (not_reserved (List.any_eq_false.mp hres c h1.1)).1

/-! ### non-vacuity and the aliasing witness the fix removed -/
example : isValid "Foo.Bar_9".toList false = true := by decide
example : encodeAux "00".toList = [Char.ofNat 0x3800] := by decide
example : isValid [Char.ofNat 0x3800] false = false ∧ isValid "a:b".toList false = false := by decide
example : decode (encode "Hello World".toList false) = ("Hello World".toList, false) := by decide

end MsiProofs.C11
