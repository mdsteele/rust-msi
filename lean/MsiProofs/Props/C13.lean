import MsiModel.Expr
/-
C13 — expression evaluation is total and follows the documented operators.
Structural induction over expression trees (all depths); integers are Lean's `Int32`,
whose arithmetic is two's complement, so wrap-around is part of the statements.
-/
namespace MsiProofs.C13
open MsiModel MsiModel.Ast

/-! ### totality -/

/-- the operators themselves are total functions `Value → Value` in the model (no `Res`):
every panic branch of the Rust operators is gone after the wrapping fix, and the
three-way outcome diff of the harness checks that the real code agrees, in the dev
profile (overflow checks on) and in release. -/
theorem unop_total (op : UnOp) (v : Value) : ∃ w, op.eval v = w := ⟨_, rfl⟩
theorem binop_total (op : BinOp) (a b : Value) : ∃ w, op.eval a b = w := ⟨_, rfl⟩

theorem indexOf_lt {names : List (List Char)} {n i} (h : Row.indexOf names n = some i) :
    i < names.length := by
  induction names generalizing i with
  | nil => simp [Row.indexOf] at h
  | cons x xs ih =>
    unfold Row.indexOf at h
    split at h
    · cases h; simp
    · cases hx : Row.indexOf xs n with
      | none => simp [hx] at h
      | some j =>
        simp [hx] at h
        have := ih hx
        simp; omega

theorem indexOf_some_of_mem {names : List (List Char)} {n} (h : n ∈ names) :
    ∃ i, Row.indexOf names n = some i := by
  induction names with
  | nil => cases h
  | cons x xs ih =>
    unfold Row.indexOf
    by_cases e : x = n
    · exact ⟨0, by simp [e]⟩
    · have : n ∈ xs := by
        cases h with
        | head => exact absurd rfl e
        | tail _ h => exact h
      obtain ⟨i, hi⟩ := ih this
      exact ⟨i + 1, by simp [e, hi]⟩

/-- indexing a row by the name of one of its columns never panics -/
theorem row_get_ok (r : Row) (hwf : r.cols.length = r.vals.length) {n} (h : n ∈ r.cols) :
    ∃ v, r.get n = .ok v := by
  obtain ⟨i, hi⟩ := indexOf_some_of_mem h
  have hlt := indexOf_lt hi
  unfold Row.get
  rw [hi]
  have : i < r.vals.length := by omega
  simp [this]

/-- **evaluation never panics** on a row that has the referenced columns -/
theorem eval_total (e : Ast) (r : Row) (hwf : r.cols.length = r.vals.length)
    (h : ∀ n ∈ e.columns, n ∈ r.cols) : ∃ v, e.eval r = .ok v := by
  induction e with
  | lit v => exact ⟨v, rfl⟩
  | col n => exact row_get_ok r hwf (h n List.mem_cons_self)
  | un op a ih =>
    obtain ⟨v, hv⟩ := ih h
    exact ⟨op.eval v, by simp [Ast.eval, hv]⟩
  | bin op a b iha ihb =>
    obtain ⟨x, hx⟩ := iha fun n hn => h n (List.mem_append_left _ hn)
    obtain ⟨y, hy⟩ := ihb fun n hn => h n (List.mem_append_right _ hn)
    exact ⟨op.eval x y, by simp [Ast.eval, hx, hy]⟩
  | and a b iha ihb =>
    obtain ⟨x, hx⟩ := iha fun n hn => h n (List.mem_append_left _ hn)
    obtain ⟨y, hy⟩ := ihb fun n hn => h n (List.mem_append_right _ hn)
    cases hb : x.toBool
    · exact ⟨Value.fromBool false, by simp [Ast.eval, hx, hb]⟩
    · exact ⟨Value.fromBool y.toBool, by simp [Ast.eval, hx, hy, hb]⟩
  | or a b iha ihb =>
    obtain ⟨x, hx⟩ := iha fun n hn => h n (List.mem_append_left _ hn)
    obtain ⟨y, hy⟩ := ihb fun n hn => h n (List.mem_append_right _ hn)
    cases hb : x.toBool
    · exact ⟨Value.fromBool y.toBool, by simp [Ast.eval, hx, hy, hb]⟩
    · exact ⟨Value.fromBool true, by simp [Ast.eval, hx, hb]⟩

/-! ### folding at construction = lazy evaluation -/

theorem mkUn_eval (op : UnOp) (a : Ast) (r : Row) : (mkUn op a).eval r = (Ast.un op a).eval r := by
  unfold mkUn
  split <;> rfl

theorem mkBin_eval (op : BinOp) (a b : Ast) (r : Row) :
    (mkBin op a b).eval r = (Ast.bin op a b).eval r := by
  unfold mkBin
  split <;> rfl

/-- **an expression built from literal sub-expressions gives the same result as the same
expression evaluated lazily** (and building it is a total function: it cannot panic) -/
theorem build_eval (e : Ast) (r : Row) : (build e).eval r = e.eval r := by
  induction e with
  | lit v => rfl
  | col n => rfl
  | un op a ih => simp [build, mkUn_eval, Ast.eval, ih]
  | bin op a b iha ihb => simp [build, mkBin_eval, Ast.eval, iha, ihb]
  | and a b iha ihb => simp [build, Ast.eval, iha, ihb]
  | or a b iha ihb => simp [build, Ast.eval, iha, ihb]

theorem mkUn_columns (op : UnOp) (a : Ast) : (mkUn op a).columns = a.columns := by
  unfold mkUn
  split <;> rfl

theorem mkBin_columns (op : BinOp) (a b : Ast) : (mkBin op a b).columns = a.columns ++ b.columns := by
  unfold mkBin
  split <;> rfl

/-- folding does not change which columns an expression names -/
theorem build_columns (e : Ast) : (build e).columns = e.columns := by
  induction e with
  | lit v => rfl
  | col n => rfl
  | un op a ih => simp [build, mkUn_columns, Ast.columns, ih]
  | bin op a b iha ihb => simp [build, mkBin_columns, Ast.columns, iha, ihb]
  | and a b iha ihb => simp [build, Ast.columns, iha, ihb]
  | or a b iha ihb => simp [build, Ast.columns, iha, ihb]

/-! ### the operators: two's complement on integers, null for the documented error cases -/

/-- + - * on two integers: the two's-complement (wrapped) result -/
theorem arith_spec (x y : Int32) :
    BinOp.eval .add (.int x) (.int y) = .int (x + y) ∧ (x + y).toInt = (x.toInt + y.toInt).bmod (2 ^ 32) ∧
    BinOp.eval .sub (.int x) (.int y) = .int (x - y) ∧ (x - y).toInt = (x.toInt - y.toInt).bmod (2 ^ 32) ∧
    BinOp.eval .mul (.int x) (.int y) = .int (x * y) ∧ (x * y).toInt = (x.toInt * y.toInt).bmod (2 ^ 32) :=
  ⟨rfl, Int32.toInt_add x y, rfl, Int32.toInt_sub x y, rfl, Int32.toInt_mul x y⟩

theorem neg_spec (x : Int32) :
    UnOp.eval .neg (.int x) = .int (-x) ∧ (-x).toInt = (-x.toInt).bmod (2 ^ 32) ∧
    UnOp.eval .bitNot (.int x) = .int (~~~x) :=
  ⟨rfl, Int32.toInt_neg x, rfl⟩

/-- bitwise operators act on the 32-bit two's-complement representation -/
theorem bitwise_spec (x y : Int32) :
    BinOp.eval .bitAnd (.int x) (.int y) = .int (x &&& y) ∧ (x &&& y).toBitVec = x.toBitVec &&& y.toBitVec ∧
    BinOp.eval .bitOr (.int x) (.int y) = .int (x ||| y) ∧ (x ||| y).toBitVec = x.toBitVec ||| y.toBitVec ∧
    BinOp.eval .bitXor (.int x) (.int y) = .int (x ^^^ y) ∧ (x ^^^ y).toBitVec = x.toBitVec ^^^ y.toBitVec :=
  ⟨rfl, rfl, rfl, rfl, rfl, rfl⟩

/-- division: null for a zero divisor, otherwise truncating division wrapped to 32 bits
(only `MIN / -1` actually wraps) -/
theorem div_spec (x y : Int32) :
    BinOp.eval .div (.int x) (.int 0) = .null ∧
    (y ≠ 0 → BinOp.eval .div (.int x) (.int y) = .int (x / y)) ∧
    (y ≠ 0 → (x / y).toInt = (x.toInt.tdiv y.toInt).bmod (2 ^ 32)) := by
  refine ⟨by simp [BinOp.eval], fun h => by simp [BinOp.eval, h], fun _ => ?_⟩
  exact Int32.toInt_div x y

/-- shifts: a count in 0..31 shifts, anything else is null (never a panic) -/
theorem shift_spec (x n : Int32) :
    (BinOp.shiftOk n = true → BinOp.eval .shl (.int x) (.int n) = .int (x <<< n) ∧
                               BinOp.eval .shr (.int x) (.int n) = .int (x >>> n)) ∧
    (BinOp.shiftOk n = false → BinOp.eval .shl (.int x) (.int n) = .null ∧
                                BinOp.eval .shr (.int x) (.int n) = .null) := by
  constructor <;> intro h <;> simp [BinOp.eval, h]

/-- operands of the wrong type give null; string addition concatenates -/
theorem wrong_type_null (op : BinOp) (a b : Value)
    (hop : op = .sub ∨ op = .mul ∨ op = .div ∨ op = .bitAnd ∨ op = .bitOr ∨ op = .bitXor ∨ op = .shl ∨ op = .shr)
    (h : (∀ n, a ≠ .int n) ∨ (∀ n, b ≠ .int n)) : op.eval a b = .null := by
  -- each of these operators has one defining case, two integers, and `null` otherwise
  cases a with
  | int x =>
    cases b with
    | int y => exact (h.elim (fun h => h x rfl) (fun h => h y rfl)).elim
    | null => rcases hop with rfl | rfl | rfl | rfl | rfl | rfl | rfl | rfl <;> rfl
    | str t => rcases hop with rfl | rfl | rfl | rfl | rfl | rfl | rfl | rfl <;> rfl
  | null => rcases hop with rfl | rfl | rfl | rfl | rfl | rfl | rfl | rfl <;> rfl
  | str s => rcases hop with rfl | rfl | rfl | rfl | rfl | rfl | rfl | rfl <;> rfl

theorem add_spec (a b : Value) :
    BinOp.eval .add a b = match a, b with
      | .int x, .int y => .int (x + y)
      | .str s, .str t => .str (s ++ t)
      | _, _ => .null := by
  cases a <;> cases b <;> rfl

theorem unop_wrong_type_null (v : Value) (h : ∀ n, v ≠ .int n) :
    UnOp.eval .neg v = .null ∧ UnOp.eval .bitNot v = .null := by
  cases v <;> first | exact ⟨rfl, rfl⟩ | exact absurd rfl (h _)

def isBool (v : Value) : Prop := v = .int 0 ∨ v = .int 1

theorem fromBool_isBool (b : Bool) : isBool (Value.fromBool b) := by
  cases b <;> simp [Value.fromBool, isBool]

/-- comparisons return 0 or 1, and decide the derived ordering -/
theorem cmp_spec (a b : Value) :
    BinOp.eval .eq a b = Value.fromBool (a == b) ∧ BinOp.eval .ne a b = Value.fromBool (a != b) ∧
    BinOp.eval .lt a b = Value.fromBool (Value.lt a b) ∧ BinOp.eval .le a b = Value.fromBool (!Value.lt b a) ∧
    BinOp.eval .gt a b = Value.fromBool (Value.lt b a) ∧ BinOp.eval .ge a b = Value.fromBool (!Value.lt a b) :=
  ⟨rfl, rfl, rfl, rfl, rfl, rfl⟩

theorem cmp_isBool (op : BinOp) (a b : Value)
    (h : op = .eq ∨ op = .ne ∨ op = .lt ∨ op = .le ∨ op = .gt ∨ op = .ge) : isBool (op.eval a b) := by
  rcases h with rfl | rfl | rfl | rfl | rfl | rfl <;> exact fromBool_isBool _

/-- truthiness: null, zero and the empty string are false, everything else true -/
theorem truthy_spec (v : Value) :
    v.toBool = false ↔ (v = .null ∨ v = .int 0 ∨ v = .str []) := by
  cases v with
  | null => simp [Value.toBool]
  | int n => simp [Value.toBool]
  | str s => cases s <;> simp [Value.toBool]

/-- NOT / AND / OR return 0 or 1 under that truthiness; AND and OR short-circuit -/
theorem logic_spec (a b : Ast) (r : Row) (x : Value) (hx : a.eval r = .ok x) :
    (Ast.un .boolNot a).eval r = .ok (Value.fromBool (!x.toBool)) ∧
    (x.toBool = false → (Ast.and a b).eval r = .ok (.int 0)) ∧
    (x.toBool = true → (Ast.or a b).eval r = .ok (.int 1)) ∧
    (∀ y, b.eval r = .ok y →
      (Ast.and a b).eval r = .ok (Value.fromBool (x.toBool && y.toBool)) ∧
      (Ast.or a b).eval r = .ok (Value.fromBool (x.toBool || y.toBool))) := by
  refine ⟨by simp [Ast.eval, hx, UnOp.eval], ?_, ?_, ?_⟩
  · intro h; simp [Ast.eval, hx, h, Value.fromBool]
  · intro h; simp [Ast.eval, hx, h, Value.fromBool]
  · intro y hy
    cases hb : x.toBool <;> simp [Ast.eval, hx, hy, hb]

/-! ### non-vacuity and witnesses at the overflow points the property names -/

example : BinOp.eval .add (.int 2147483647) (.int 1) = .int (-2147483648) := by decide
example : BinOp.eval .div (.int (-2147483648)) (.int (-1)) = .int (-2147483648) := by decide
example : BinOp.eval .shl (.int 1) (.int 32) = .null := by decide
example : BinOp.eval .shr (.int 1) (.int (-1)) = .null := by decide
example : UnOp.eval .neg (.int (-2147483648)) = .int (-2147483648) := by decide
example : BinOp.eval .mul (.int 2147483647) (.int 2) = .int (-2) := by decide
example : (build (.bin .add (.lit (.int 2147483647)) (.lit (.int 1)))) = .lit (.int (-2147483648)) := by decide

/-! ### truth values used as values: what a builder may not "simplify" (seeded changes of rounds 9, 10) -/

theorem fromBool_toBool (b : Bool) : (Value.fromBool b).toBool = b := by
  cases b <;> rfl

/-- double negation is the coercion to 0 / 1, not the identity -/
theorem not_not_coerces (a : Ast) (r : Row) (x : Value) (hx : a.eval r = .ok x) :
    (Ast.un .boolNot (Ast.un .boolNot a)).eval r = .ok (Value.fromBool x.toBool) := by
  simp [Ast.eval, hx, UnOp.eval, fromBool_toBool]

/-- a true constant on the left does not make AND transparent, nor a false one OR: the result is the
TRUTH VALUE of the other operand -/
theorem const_left_coerces (a : Ast) (r : Row) (x : Value) (hx : a.eval r = .ok x) :
    (Ast.and (.lit (.int 1)) a).eval r = .ok (Value.fromBool x.toBool) ∧
    (Ast.or (.lit (.int 0)) a).eval r = .ok (Value.fromBool x.toBool) := by
  constructor <;> simp [Ast.eval, hx, Value.toBool]

/-- and the API's constructors keep these shapes over a column (they fold literals only) -/
theorem build_keeps_coercions (n : List Char) :
    build (.un .boolNot (.un .boolNot (.col n))) = .un .boolNot (.un .boolNot (.col n)) ∧
    build (.and (.lit (.int 1)) (.col n)) = .and (.lit (.int 1)) (.col n) ∧
    build (.or (.lit (.int 0)) (.col n)) = .or (.lit (.int 0)) (.col n) := ⟨rfl, rfl, rfl⟩

/-- the coercion matters: on the value 4 the three differ from the operand itself -/
example : (Ast.un .boolNot (Ast.un .boolNot (.lit (.int 4)))).eval ⟨[], []⟩ = .ok (.int 1) := by decide
example : (Ast.and (.lit (.int 1)) (.lit (.int 4))).eval ⟨[], []⟩ = .ok (.int 1) := by decide
example : (Ast.or (.lit (.int 0)) (.lit (.str ['x']))).eval ⟨[], []⟩ = .ok (.int 1) := by decide

end MsiProofs.C13
