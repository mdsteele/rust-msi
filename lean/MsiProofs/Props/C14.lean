import MsiModel.CodePage
/-
C14 — code pages encode losslessly what they can represent and match their names.
What is proved here is the repository's own logic: the id tables, the wiring of ids to
`encoding_rs` encodings, the chunked encoder loop (for every buffer size that can hold one
character's code, every string length), the ASCII special case and UTF-8.  The
per-character tables of the 24 table-backed pages live in `encoding_rs`; their laws are a
finite statement decided by complete enumeration on the real implementation (harness).
-/
namespace MsiProofs.C14
open MsiModel MsiModel.CodePage

/-! ### identifier lookup and reverse lookup are mutually inverse -/

/-- every supported code page has an identifier below 2^31 that `from_id` maps back to it
(re-decided on the regenerated tables) -/
theorem id_fromId_bounded : ∀ cp < Gen.cpVariants.length,
    ∃ n : Int, CodePage.id cp = some n ∧ 0 ≤ n ∧ n < 2147483648 ∧ fromId n = some cp := by
  decide +kernel

theorem id_fromId : ∀ cp < Gen.cpVariants.length, ∃ n, CodePage.id cp = some n ∧ fromId n = some cp :=
  fun cp h => let ⟨n, h1, _, _, h2⟩ := id_fromId_bounded cp h; ⟨n, h1, h2⟩

theorem fromId_id : ∀ p ∈ Gen.cpFromIdTable, p.1 ≠ 0 → fromId p.1 = some p.2 ∧ CodePage.id p.2 = some p.1 := by
  decide +kernel

/-- id 0 means the default code page -/
theorem fromId_zero : fromId 0 = some Gen.cpDefault := by decide +kernel

theorem fromId_unknown (n : Int) (h : n ∉ Gen.cpFromIdTable.map (·.1)) : fromId n = none := by
  unfold fromId
  rw [Option.map_eq_none_iff, List.find?_eq_none]
  intro p hp heq
  apply h
  have : p.1 = n := by simpa using heq
  exact this ▸ List.mem_map_of_mem hp

/-! ### each id is wired to the encoding its documentation name promises -/

/-- expected wiring, written from the documentation names of the variants: 932 Shift_JIS,
936 GBK, 949 Unified Hangul (EUC-KR/UHC), 950/951 Big5, 1250-1258, Macintosh Roman /
Cyrillic, ISO 8859-2..8, UTF-8.  28591 (ISO 8859-1) has no encoding of its own in
`encoding_rs` (WHATWG folds it into windows-1252) and US-ASCII is special-cased. -/
def expectedWiring : List (Int × String) := [
  (932, "SHIFT_JIS"), (936, "GBK"), (949, "EUC_KR"), (950, "BIG5"), (951, "BIG5"),
  (1250, "WINDOWS_1250"), (1251, "WINDOWS_1251"), (1252, "WINDOWS_1252"), (1253, "WINDOWS_1253"),
  (1254, "WINDOWS_1254"), (1255, "WINDOWS_1255"), (1256, "WINDOWS_1256"), (1257, "WINDOWS_1257"),
  (1258, "WINDOWS_1258"), (10000, "MACINTOSH"), (10007, "X_MAC_CYRILLIC"), (20127, "unreachable"),
  (28591, "WINDOWS_1252"), (28592, "ISO_8859_2"), (28593, "ISO_8859_3"), (28594, "ISO_8859_4"),
  (28595, "ISO_8859_5"), (28596, "ISO_8859_6"), (28597, "ISO_8859_7"), (28598, "ISO_8859_8"),
  (65001, "UTF_8")]

theorem wiring : Gen.cpWiring = expectedWiring := by decide +kernel

/-- decoding uses the code page's own decoder: no byte-order-mark sniffing; US-ASCII is
special-cased before `encoding()` is consulted (its arm is `unreachable!()`) -/
theorem decode_no_bom_sniffing : Gen.cpDecodeSniffsBom = false ∧ Gen.cpAsciiSpecialCased = true := by
  decide +kernel

/-! ### the encoder loop computes the concatenation of the per-character codes -/

theorem encChunk_len (enc : Char → Option (List UInt8)) (cap : Nat) (s : List Char) (acc : List UInt8) :
    (encChunk enc cap s acc).2.1.length ≤ s.length := by
  fun_induction encChunk enc cap s acc with
  | case1 acc => simp
  | case2 acc c cs h => simp
  | case3 acc c cs bs h hfit ih => simp only [List.length_cons]; omega
  | case4 acc c cs bs h hfit => simp

theorem encChunk_progress (enc : Char → Option (List UInt8)) (cap : Nat)
    (hfit : ∀ c bs, enc c = some bs → bs.length ≤ cap) (s : List Char) :
    (encChunk enc cap s []).1 = .inputEmpty ∨ (encChunk enc cap s []).2.1.length < s.length := by
  cases s with
  | nil => exact Or.inl rfl
  | cons c cs =>
    right
    unfold encChunk
    split
    · simp
    · rename_i bs h
      have := encChunk_len enc cap cs ([] ++ bs)
      simp only [List.length_nil, Nat.zero_add, hfit c bs h, if_true, List.length_cons]
      omega

def tailSpec (enc : Char → Option (List UInt8)) : EncResult → List Char → List UInt8
  | .inputEmpty, _ => []
  | .outputFull, rest => encodeSpec enc rest
  | .unmappable, rest => UInt8.ofNat Gen.cpReplacementByte :: encodeSpec enc rest

theorem encodeSpec_cons (enc : Char → Option (List UInt8)) (c : Char) (cs : List Char) :
    encodeSpec enc (c :: cs) = (enc c).getD [UInt8.ofNat Gen.cpReplacementByte] ++ encodeSpec enc cs := by
  simp [encodeSpec]

/-- what one call contributes, whatever the reason it stopped -/
theorem encChunk_spec (enc : Char → Option (List UInt8)) (cap : Nat) (s : List Char) (acc : List UInt8) :
    (encChunk enc cap s acc).2.2 ++ tailSpec enc (encChunk enc cap s acc).1 (encChunk enc cap s acc).2.1
      = acc ++ encodeSpec enc s := by
  fun_induction encChunk enc cap s acc with
  | case1 acc => simp [tailSpec, encodeSpec]
  | case2 acc c cs h => simp [tailSpec, encodeSpec_cons, h]
  | case3 acc c cs bs h hfit ih => rw [ih]; simp [encodeSpec_cons, h]
  | case4 acc c cs bs h hfit => simp [tailSpec, encodeSpec_cons, h]

theorem encChunk_inputEmpty_rest (enc : Char → Option (List UInt8)) (cap : Nat) (s : List Char) (acc : List UInt8) :
    (encChunk enc cap s acc).1 = .inputEmpty → (encChunk enc cap s acc).2.1 = [] := by
  fun_induction encChunk enc cap s acc with
  | case1 acc => simp
  | case2 acc c cs h => simp
  | case3 acc c cs bs h hfit ih => exact ih
  | case4 acc c cs bs h hfit => simp

/-- **the encoding of a string is the concatenation of the encodings of its characters,
whatever its length**: for every per-character encoder, every buffer size that can hold
one code, every string — and the loop terminates within `length + 1` iterations -/
theorem encode_is_concat (enc : Char → Option (List UInt8)) (cap : Nat)
    (hfit : ∀ c bs, enc c = some bs → bs.length ≤ cap) :
    ∀ (fuel : Nat) (s : List Char) (bytes : List UInt8), s.length < fuel →
      encodeLoop enc cap fuel s bytes = some (bytes ++ encodeSpec enc s) := by
  intro fuel
  induction fuel with
  | zero => intro s bytes h; omega
  | succ n ih =>
    intro s bytes h
    unfold encodeLoop
    have hspec := encChunk_spec enc cap s []
    have hlen := encChunk_len enc cap s []
    generalize hr : encChunk enc cap s [] = r at hspec hlen
    obtain ⟨res, rest, out⟩ := r
    simp only at hspec hlen
    have hprog : res = .inputEmpty ∨ rest.length < s.length := by
      have := encChunk_progress enc cap hfit s
      rwa [hr] at this
    cases res with
    | inputEmpty =>
      simp only [tailSpec, List.append_nil, List.nil_append] at hspec
      simp [hspec]
    | outputFull =>
      simp only [tailSpec, List.nil_append] at hspec
      have hlt : rest.length < n := by have := hprog.resolve_left nofun; omega
      simp only
      rw [ih rest (bytes ++ out) hlt, List.append_assoc, hspec]
    | unmappable =>
      simp only [tailSpec, List.nil_append] at hspec
      have hlt : rest.length < n := by have := hprog.resolve_left nofun; omega
      simp only
      rw [ih rest _ hlt]
      simp only [List.append_assoc]
      rw [← hspec]; simp

/-- corollary: encoding distributes over concatenation of strings -/
theorem encodeSpec_append (enc : Char → Option (List UInt8)) (s t : List Char) :
    encodeSpec enc (s ++ t) = encodeSpec enc s ++ encodeSpec enc t := by
  simp [encodeSpec]

/-- per-character law, for any encoder/decoder pair whose table is consistent -/
theorem per_char_law (enc : Char → Option (List UInt8)) (dec : List UInt8 → List Char)
    (hcons : ∀ c bs, enc c = some bs → dec bs = [c]) (c : Char) :
    encodeSpec enc [c] = [UInt8.ofNat Gen.cpReplacementByte] ∨ dec (encodeSpec enc [c]) = [c] := by
  cases h : enc c with
  | none => left; simp [encodeSpec, h]
  | some bs => right; simp [encodeSpec, h, hcons c bs h]

/-! ### UTF-8 -/

theorem utf8_fits (c : Char) (bs : List UInt8) (h : utf8Char c = some bs) : bs.length ≤ Gen.cpEncodeBufferSize := by
  simp only [utf8Char, Option.some.injEq] at h
  subst h
  have : (String.utf8EncodeChar c).length ≤ 4 := by
    rw [String.length_utf8EncodeChar]; exact c.utf8Size_le_four
  have e : Gen.cpEncodeBufferSize = 1024 := rfl
  omega

/-- `CodePage::Utf8.encode(s)` is the UTF-8 encoding of `s` for strings of every length
(the 1024-byte buffer never splits a character) -/
theorem utf8_encode (s : List Char) : utf8Encode s = some (s.flatMap String.utf8EncodeChar) := by
  unfold utf8Encode
  rw [encode_is_concat utf8Char _ utf8_fits _ s [] (by omega)]
  simp [encodeSpec, utf8Char]

/-- … and it is lossless: core's UTF-8 decoder recovers exactly the characters -/
theorem utf8_lossless (s : List Char) : (s.utf8Encode).utf8Decode? = some s.toArray :=
  List.utf8Decode?_utf8Encode

/-! ### US-ASCII -/

theorem ascii_concat (s t : List Char) : asciiEncode (s ++ t) = asciiEncode s ++ asciiEncode t := by
  simp [asciiEncode]

theorem ascii_per_char (c : Char) :
    asciiEncode [c] = [63] ∨ asciiDecode (asciiEncode [c]) = [c] := by
  by_cases h : c.toNat < 128
  · right
    simp only [asciiEncode, asciiDecode, List.map_cons, List.map_nil, h, if_true]
    have h2 : (UInt8.ofNat c.toNat).toNat = c.toNat := UInt8.toNat_ofNat_of_lt' (Nat.lt_trans h (by decide))
    simp only [h2, h, if_true]
    congr 1
    exact Char.ofNat_toNat c
  · left; simp [asciiEncode, h]

/-- decoding accepts any bytes (total by construction) and maps non-ASCII to U+FFFD -/
theorem ascii_decode_total (bs : List UInt8) : (asciiDecode bs).length = bs.length := by
  simp [asciiDecode]

/-! ### non-vacuity -/
example : utf8Encode "é€".toList = some [0xC3, 0xA9, 0xE2, 0x82, 0xAC] := by decide +kernel
example : fromId 932 = some 0 ∧ fromId 4711 = none := by decide +kernel
example : encodeLoop (fun c => if c = 'x' then none else some [1, 2, 3]) 4 9 "abxc".toList [] =
    some [1, 2, 3, 1, 2, 3, 63, 1, 2, 3] := by decide +kernel

end MsiProofs.C14
