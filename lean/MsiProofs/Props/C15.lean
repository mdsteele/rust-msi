import MsiModel.Effects
/-
C15 — a successful flush means the data reached the medium, even when writes fail.
On the effect model (scripts of container actions under the `cfb` contract K1–K5, for every
fault assignment and every number of medium writes per action): a call whose script
flushes every stream before dropping it cannot return Ok after a failed medium write; the
four stream-writing functions of the library do flush (extracted from the source on every
run), so every DML call, the finisher and `flush` have that property.
What the model cannot exhibit: the order and number of cfb's own sector / FAT / directory
writes and partial writes (partial: tied by the fault sweep on the real code, every index k
of the medium's write/read/seek calls, transient and persistent).
-/
namespace MsiProofs.C15
open MsiModel MsiModel.Effects

theorem step_ok_mono (r : Run) (a : Act) (f : Bool) (h : r.ok = false) : (step r a f).ok = false := by
  cases a <;> simp [step, h] <;> (try split) <;> simp [h]

theorem run_ok_mono (fails : Nat → Bool) (s : List Act) (i : Nat) (r : Run) (h : r.ok = false) :
    (run fails s i r).ok = false := by
  induction s generalizing i r with
  | nil => exact h
  | cons a rest ih => exact ih _ _ (step_ok_mono r a _ h)

/-- one well-flushed step that leaves the call Ok: no medium write failed during it, and
the flushed-flag evolves as `wellFlushed` assumes -/
theorem step_ok (r : Run) (a : Act) (f : Bool) (rest : List Act)
    (hw : wellFlushed (a :: rest) r.flushed = true) (hok : (step r a f).ok = true) :
    (step r a f).failed = r.failed ∧ r.ok = true ∧ wellFlushed rest (step r a f).flushed = true := by
  have hrok : r.ok = true := by
    cases h : r.ok
    · rw [step_ok_mono r a f h] at hok; cases hok
    · rfl
  cases a with
  | dropStream =>
    simp only [wellFlushed, Bool.and_eq_true] at hw
    simp [step, hw.1, hrok, hw.2]
  | read => simp only [wellFlushed] at hw; simp [step, hrok, hw]
  | createStream =>
    simp only [wellFlushed] at hw
    cases f <;> simp [step, hrok] at hok ⊢
    exact hw
  | write =>
    simp only [wellFlushed] at hw
    cases f <;> simp [step, hrok] at hok ⊢
    exact hw
  | flushStream =>
    simp only [wellFlushed] at hw
    cases f <;> simp [step, hrok] at hok ⊢
    exact hw
  | removeStream =>
    simp only [wellFlushed] at hw
    cases f <;> simp [step, hrok] at hok ⊢
    exact hw
  | flushFile =>
    simp only [wellFlushed] at hw
    cases f <;> simp [step, hrok] at hok ⊢
    exact hw

/-- **no swallowed error**: for a well-flushed script, every fault assignment and every
starting index: if the call returns Ok then no medium write failed during it -/
theorem no_swallow (fails : Nat → Bool) (s : List Act) (i : Nat) (r : Run)
    (hw : wellFlushed s r.flushed = true) (hok : (run fails s i r).ok = true) :
    (run fails s i r).failed = r.failed ∧ r.ok = true := by
  induction s generalizing i r with
  | nil => exact ⟨rfl, hok⟩
  | cons a rest ih =>
    simp only [run] at hok ⊢
    have hs : (step r a (fails i)).ok = true := by
      cases h : (step r a (fails i)).ok
      · rw [run_ok_mono fails rest (i + 1) _ h] at hok; cases hok
      · rfl
    obtain ⟨h1, h2, h3⟩ := step_ok r a (fails i) rest hw hs
    have := ih (i + 1) (step r a (fails i)) h3 hok
    exact ⟨this.1.trans h1, h2⟩

/-- the four stream writers flush explicitly (extracted from the current source) and
`flush` / `into_inner` propagate the finisher's result and flush the file -/
theorem writers_flush :
    Gen.flushDiscipline.all (·.2) = true ∧ Gen.flushPropagatesFinisher = true ∧
    Gen.flushFlushesFile = true ∧ Gen.intoInnerPropagatesFinisher = true := by decide

theorem writer_wellFlushed (name : String) (n : Nat) (h : flushes name = true) (fl : Bool) :
    wellFlushed (writer name n) fl = true := by
  unfold writer
  simp only [h, if_true, List.singleton_append, List.cons_append, List.nil_append, wellFlushed]
  induction n with
  | zero => simp [wellFlushed]
  | succ k ih => simpa [List.replicate_succ, wellFlushed] using ih

theorem wellFlushed_append (a b : List Act) (fl : Bool) (ha : wellFlushed a fl = true)
    (hb : ∀ fl', wellFlushed b fl' = true) : wellFlushed (a ++ b) fl = true := by
  induction a generalizing fl with
  | nil => exact hb fl
  | cons x rest ih =>
    cases x <;> simp only [List.cons_append, wellFlushed, Bool.and_eq_true] at ha ⊢
    · exact ih _ ha
    · exact ih _ ha
    · exact ih _ ha
    · exact ⟨ha.1, ih _ ha.2⟩
    · exact ih _ ha
    · exact ih _ ha
    · exact ih _ ha

/-- **every DML call, the finisher and `flush`**: whatever the number of buffer spills `n`,
whichever of summary / pool are pending, whichever medium writes fail: Ok ⇒ nothing failed -/
theorem api_no_swallow (fails : Nat → Bool) (n : Nat) (sum pool : Bool) :
    (∀ r0 : Run, r0.ok = true → (run fails (dmlScript n) 0 r0).ok = true →
        (run fails (dmlScript n) 0 r0).failed = r0.failed) ∧
    (∀ r0 : Run, r0.ok = true → (run fails (flushScript sum pool n) 0 r0).ok = true →
        (run fails (flushScript sum pool n) 0 r0).failed = r0.failed) := by
  have hwr : flushes "write_rows" = true := by decide
  have hps : flushes "propset_write" = true := by decide
  have hwp : flushes "write_pool" = true := by decide
  have hwd : flushes "write_data" = true := by decide
  constructor
  · intro r0 _ hok
    have hw : wellFlushed (dmlScript n) r0.flushed = true := by
      unfold dmlScript
      simp only [List.cons_append, List.nil_append, wellFlushed]
      exact writer_wellFlushed _ n hwr _
    exact (no_swallow fails _ 0 r0 hw hok).1
  · intro r0 _ hok
    have hw : ∀ fl, wellFlushed (flushScript sum pool n) fl = true := by
      intro fl
      unfold flushScript finishScript
      have hfile : ∀ fl', wellFlushed (if Gen.flushFlushesFile = true then [Act.flushFile] else []) fl' = true := by
        intro fl'; split <;> simp [wellFlushed]
      cases sum <;> cases pool <;> simp only [Bool.false_eq_true, if_false, if_true, List.nil_append, List.append_nil]
      · exact hfile fl
      · exact wellFlushed_append _ _ fl (wellFlushed_append _ _ fl (writer_wellFlushed _ n hwp fl)
          (fun fl' => writer_wellFlushed _ n hwd fl')) hfile
      · exact wellFlushed_append _ _ fl (writer_wellFlushed _ n hps fl) hfile
      · rw [List.append_assoc]
        exact wellFlushed_append _ _ fl (writer_wellFlushed _ n hps fl)
          (fun fl' => wellFlushed_append _ _ fl' (wellFlushed_append _ _ fl' (writer_wellFlushed _ n hwp fl')
            (fun fl'' => writer_wellFlushed _ n hwd fl'')) hfile)
    exact (no_swallow fails _ 0 r0 (hw _) hok).1

/-- the defect this replaced, as a theorem about the model: a writer that merely drops its
stream swallows the failure of the buffer spill that happens in the destructor -/
theorem unflushed_writer_swallows :
    let s : List Act := [.createStream, .write, .dropStream]
    let r := run (fun i => i == 2) s 0 ⟨true, 0, false⟩
    r.ok = true ∧ r.failed = 1 := by decide

end MsiProofs.C15
