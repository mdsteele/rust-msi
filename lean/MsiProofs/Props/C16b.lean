import MsiProofs.Props.C16
import MsiModel.Gen.Effects
/-
C16, tied to the source — `Gen/Effects.lean` is regenerated on every run from
`src/internal/package.rs` and `src/internal/query.rs`: for every function of the package its
receiver, whether its body installs the finisher, raises the summary's modified flag, calls a
writing method of the container or runs the finisher, and which other functions of the package it
calls.  The theorems below are evaluated on that table: nothing a read-only session can call
leaves anything pending or writes (directly or through a callee); the three ways of closing only
run a finisher that is already installed; the executors of `Select` and `Join` touch neither the
pool's counts nor the container's directory.  The model's read-only requests (`readonly_step_same`)
assume exactly this of the code.
-/
namespace MsiProofs.C16
open MsiModel

structure Meth where
  name : List Char
  recv : List Char
  setsFin : Bool
  marksSum : Bool
  writes : Bool
  runsFin : Bool
  calls : List (List Char)

def methods : List Meth :=
  Gen.pkgMethods.map fun (n, r, a, b, c, d, cs) => ⟨n.toList, r.toList, a, b, c, d, cs.map (·.toList)⟩

def find (n : List Char) : Option Meth := methods.find? (·.name == n)

/-- may calling `n` install the finisher, raise a modified flag or write to the container -
directly or through the functions it calls (`fuel` bounds the call depth followed) -/
def dirty : Nat → List Char → Bool
  | 0, _ => true
  | fuel + 1, n =>
    match find n with
    | none => true
    | some m => m.setsFin || m.marksSum || m.writes || m.calls.any (dirty fuel)

/-- what a session that only opens and reads can call -/
def readApi : List (List Char) :=
  ["open", "package_type", "summary_info", "database_codepage", "has_table", "get_table", "tables",
   "has_stream", "streams", "has_digital_signature", "select_rows", "read_stream"].map String.toList

/-- the mutating API -/
def writeApi : List (List Char) :=
  ["create", "summary_info_mut", "set_database_codepage", "create_table", "drop_table", "delete_rows",
   "insert_rows", "update_rows", "write_stream", "remove_stream", "remove_digital_signature"].map String.toList

/-- the three ways of closing -/
def closeApi : List (List Char) := ["flush", "into_inner", "drop"].map String.toList

/-- helpers that are not part of the API -/
def helpers : List (List Char) :=
  ["comp", "comp_mut", "set_finisher", "create_table_with_name", "check_catalog_room", "clsid", "default_title", "next",
   "size_hint", "finish"].map String.toList

/-- the functions of package.rs that take the package (or build one), helpers aside -/
def apiNames : List (List Char) :=
  ((methods.filter fun m => m.recv != "none".toList || m.name == "open".toList || m.name == "create".toList).map
    (·.name)).filter fun n => !helpers.contains n

/-- the public functions of the package, in the order of the source -/
def publicApi : List (List Char) :=
  ["package_type", "summary_info", "database_codepage", "has_table", "get_table", "tables", "has_stream",
   "streams", "has_digital_signature", "into_inner", "open", "select_rows", "read_stream", "create",
   "summary_info_mut", "set_database_codepage", "create_table", "drop_table", "delete_rows", "insert_rows",
   "update_rows", "write_stream", "remove_stream", "remove_digital_signature", "flush", "drop"].map String.toList

/-- the five facts below, decided on the regenerated table in one evaluation (which reads the
table's strings once) -/
theorem effects_decided :
    (∀ n ∈ readApi, dirty 8 n = false) ∧ (∀ n ∈ writeApi, dirty 8 n = true) ∧
    (∀ n ∈ closeApi, ∃ m, find n = some m ∧ m.setsFin = false ∧ m.marksSum = false ∧
      m.runsFin = true ∧ (m.calls.all fun c => !dirty 8 c) = true) ∧
    (∀ m ∈ methods, m.runsFin = true → m.name ∈ closeApi) ∧
    apiNames = publicApi := by
  decide +kernel

/-- **nothing a read-only session calls can leave something pending or write**, at any call depth -/
theorem read_api_clean : ∀ n ∈ readApi, dirty 8 n = false := effects_decided.1

/-- every mutating call does leave something pending or writes (the model's `Step`s are these) -/
theorem write_api_dirty : ∀ n ∈ writeApi, dirty 8 n = true := effects_decided.2.1

/-- closing installs nothing and raises no flag: it only runs a finisher installed before -/
theorem close_api_only_runs : ∀ n ∈ closeApi, ∃ m, find n = some m ∧ m.setsFin = false ∧ m.marksSum = false ∧
    m.runsFin = true ∧ (m.calls.all fun c => !dirty 8 c) = true := effects_decided.2.2.1

/-- the finisher is run by the three ways of closing and by nothing else -/
theorem finisher_runs_only_at_close : ∀ m ∈ methods, m.runsFin = true → m.name ∈ closeApi := effects_decided.2.2.2.1

/-- the public functions of the package are exactly the three lists above: a new one has to be
placed (and the model's request list reviewed) before this holds again -/
theorem api_partition : apiNames =
    ["package_type", "summary_info", "database_codepage", "has_table", "get_table", "tables", "has_stream",
     "streams", "has_digital_signature", "into_inner", "open", "select_rows", "read_stream", "create",
     "summary_info_mut", "set_database_codepage", "create_table", "drop_table", "delete_rows", "insert_rows",
     "update_rows", "write_stream", "remove_stream", "remove_digital_signature", "flush", "drop"].map String.toList :=
  effects_decided.2.2.2.2

/-- `Select::exec` and `Join::exec` take the string pool immutably, create or remove no stream and
change no reference count -/
theorem select_join_exec_pure : ∀ q ∈ Gen.queryExecs, (q.1 = "Select" ∨ q.1 = "Join") →
    q.2.1 = false ∧ q.2.2.1 = false ∧ q.2.2.2 = false := by decide +kernel

end MsiProofs.C16
