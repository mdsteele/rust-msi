import MsiModel.Language
/-
C17 — language codes and tags map consistently.
Theorems are about `MsiModel.Language` over `Gen.languages`, the table regenerated from
/repo/src/internal/language.rs on every run.  Generic lemmas are by induction over the
table; table facts are `decide +kernel` over the regenerated data.
-/
namespace MsiProofs.C17
open MsiModel MsiModel.Language

/-! ### binary search returns an index in range -/

theorem bsLoop_lt (keys : List Nat) (k fuel : Nat) :
    ∀ size base, 0 < size → base + size ≤ keys.length →
      bsLoop keys k fuel size base < keys.length := by
  induction fuel with
  | zero => intro size base h1 h2; simp [bsLoop]; omega
  | succ n ih =>
    intro size base h1 h2
    unfold bsLoop
    split
    · omega
    · simp only
      split
      · apply ih <;> omega
      · apply ih <;> omega

theorem bsearch_lt {keys : List Nat} {k i : Nat} (h : bsearch keys k = some i) :
    i < keys.length := by
  unfold bsearch at h
  split at h
  · cases h
  · simp only at h
    split at h
    · cases h
      apply bsLoop_lt <;> omega
    · cases h

/-- the loop of Rust's `binary_search_by`, on strictly ascending keys: all keys from `base + size`
on are above `k`, and the key at `base` is not (unless `base` is still 0) -/
theorem bsLoop_spec (keys : List Nat) (hs : keys.Pairwise (· < ·)) (k : Nat) :
    ∀ fuel size base, 0 < size → size ≤ fuel + 1 → base + size ≤ keys.length →
      (base = 0 ∨ keys.getD base 0 ≤ k) → (∀ j, base + size ≤ j → j < keys.length → k < keys.getD j 0) →
      let b := bsLoop keys k fuel size base
      b < keys.length ∧ (b = 0 ∨ keys.getD b 0 ≤ k) ∧ ∀ j, b < j → j < keys.length → k < keys.getD j 0 := by
  have mono : ∀ i j, i ≤ j → j < keys.length → keys.getD i 0 ≤ keys.getD j 0 := by
    intro i j hij hj
    rcases Nat.eq_or_lt_of_le hij with rfl | hlt
    · exact Nat.le_refl _
    · have := List.pairwise_iff_getElem.mp hs i j (by omega) hj hlt
      simp only [List.getD_eq_getElem?_getD, List.getElem?_eq_getElem hj, List.getElem?_eq_getElem (show i < keys.length by omega), Option.getD_some]
      omega
  intro fuel
  induction fuel with
  | zero =>
    intro size base h0 h1 h2 h3 h4
    have : size = 1 := by omega
    subst this
    simp only [bsLoop]
    exact ⟨by omega, h3, fun j hj => h4 j (by omega)⟩
  | succ n ih =>
    intro size base h0 h1 h2 h3 h4
    unfold bsLoop
    by_cases hsz : size ≤ 1
    · rw [if_pos hsz]
      have : size = 1 := by omega
      subst this
      exact ⟨by omega, h3, fun j hj => h4 j (by omega)⟩
    · rw [if_neg hsz]
      simp only
      by_cases hgt : keys.getD (base + size / 2) 0 > k
      · rw [if_pos hgt]
        refine ih _ _ (by omega) (by omega) (by omega) h3 ?_
        intro j hj hjl
        exact Nat.lt_of_lt_of_le hgt (mono _ _ (by omega) hjl)
      · rw [if_neg hgt]
        exact ih _ _ (by omega) (by omega) (by omega) (Or.inr (by omega)) (fun j hj => h4 j (by omega))

theorem bsearch_of_mem (keys : List Nat) (hs : keys.Pairwise (· < ·)) (i : Nat) (hi : i < keys.length) :
    bsearch keys (keys.getD i 0) = some i := by
  unfold bsearch
  rw [if_neg (by omega)]
  obtain ⟨hb, h1, h2⟩ := bsLoop_spec keys hs (keys.getD i 0) keys.length keys.length 0 (by omega) (by omega)
    (by omega) (Or.inl rfl) (fun j hj hjl => by omega)
  simp only at hb h1 h2 ⊢
  have strict : ∀ a b, a < b → b < keys.length → keys.getD a 0 < keys.getD b 0 := by
    intro a b hab hbl
    have := List.pairwise_iff_getElem.mp hs a b (by omega) hbl hab
    simpa [List.getD_eq_getElem?_getD, List.getElem?_eq_getElem hbl, List.getElem?_eq_getElem (show a < keys.length by omega)] using this
  generalize bsLoop keys (keys.getD i 0) keys.length keys.length 0 = b at hb h1 h2
  have hbi : b = i := by
    rcases Nat.lt_trichotomy b i with h | h | h
    · exact absurd (h2 i h hi) (Nat.lt_irrefl _)
    · exact h
    · rcases h1 with rfl | h1
      · omega
      · exact absurd (strict i b h hb) (by omega)
  subst hbi
  simp

theorem bsearch_none (keys : List Nat) (k : Nat) (h : k ∉ keys) : bsearch keys k = none := by
  cases hb : bsearch keys k with
  | none => rfl
  | some i =>
    have hi := bsearch_lt hb
    unfold bsearch at hb
    split at hb; · cases hb
    simp only at hb
    split at hb
    · rename_i hk
      cases hb
      rw [List.getD_eq_getElem?_getD, List.getElem?_eq_getElem hi] at hk
      exact absurd (hk ▸ List.getElem_mem hi) h
    · cases hb

/-! ### `tag` is total and lands in the table -/

theorem mem_allTags_lang {T : Table} {r} (h : r ∈ T) : r.2.1 ∈ allTags T := by
  unfold allTags
  exact List.mem_flatMap.mpr ⟨r, h, by simp⟩

theorem mem_allTags_sub {T : Table} {r} {s} (h : r ∈ T) (hs : s ∈ r.2.2) :
    s.2 ∈ allTags T := by
  unfold allTags
  exact List.mem_flatMap.mpr ⟨r, h, by simp; exact Or.inr ⟨s.1, by simpa using hs⟩⟩

/-- `Language::tag` returns "und" or a tag of the table, for every code and every table
(the two indexings after the binary searches are in range, so the Rust cannot panic). -/
theorem tagIn_total (T : Table) (c : Nat) : tagIn T c = und ∨ tagIn T c ∈ allTags T := by
  unfold tagIn
  simp only
  split
  · rename_i index _
    split
    · rename_i lt subs hT
      have hmem : (_, lt, subs) ∈ T := List.mem_of_getElem? hT
      split
      · rename_i i _
        split
        · rename_i sc t hs
          right
          have := List.mem_of_getElem? hs
          exact mem_allTags_sub (r := (_, lt, subs)) (s := (sc, t)) hmem this
        · left; rfl
      · right; exact mem_allTags_lang hmem
    · left; rfl
  · left; rfl

/-- the indexings in `tag` are never out of range: the `none` arms are dead code -/
theorem tagIn_index_in_range (T : Table) (c : Nat) :
    ∀ i, bsearch (T.map (·.1)) (c &&& Gen.langMask) = some i → (T[i]?).isSome := by
  intro i h
  have := bsearch_lt h
  simp at this
  simp [this]

theorem tag_total (c : Nat) : tag c = und ∨ tag c ∈ allTags Gen.languages :=
  tagIn_total _ c

/-! ### table facts, re-decided against the regenerated table -/

/-- the (code, tag) pairs a row of the table stands for -/
def codeOfRow (r : Nat × List Char × List (Nat × List Char)) : List (Nat × List Char) :=
  (r.1, r.2.1) :: r.2.2.map fun s => (r.1 ||| (s.1 <<< Gen.sublangShift), s.2)

/-! `tag` on a table whose language codes, and whose sublanguage codes within each row, ascend:
the two binary searches find the row and the entry, so the tag of a code composed from the table
is the table's tag for it.  `from_tag` is a linear scan and is simply run on every tag. -/

theorem getD_map_fst {α} (l : List (Nat × α)) (i : Nat) (hi : i < l.length) : (l.map (·.1)).getD i 0 = l[i].1 := by
  simp [List.getD_eq_getElem?_getD, hi]

theorem tagIn_row (T : Table) (hs : (T.map (·.1)).Pairwise (· < ·)) {r} (hr : r ∈ T) (code : Nat)
    (h : code &&& Gen.langMask = r.1) :
    tagIn T code = match bsearch (r.2.2.map (·.1)) (code >>> Gen.sublangShift) with
      | some i => match r.2.2[i]? with
        | some (_, t) => t
        | none => und
      | none => r.2.1 := by
  obtain ⟨i, hi, rfl⟩ := List.mem_iff_getElem.mp hr
  have := bsearch_of_mem _ hs i (by simpa using hi)
  rw [getD_map_fst T i hi, ← h] at this
  unfold tagIn
  simp only [this, List.getElem?_eq_getElem hi]
  rfl

theorem tagIn_lang (T : Table) (hs : (T.map (·.1)).Pairwise (· < ·)) {r} (hr : r ∈ T) (code : Nat)
    (h1 : code &&& Gen.langMask = r.1) (h2 : code >>> Gen.sublangShift ∉ r.2.2.map (·.1)) : tagIn T code = r.2.1 := by
  rw [tagIn_row T hs hr code h1, bsearch_none _ _ h2]

theorem tagIn_sub (T : Table) (hs : (T.map (·.1)).Pairwise (· < ·)) {r} (hr : r ∈ T)
    (hss : (r.2.2.map (·.1)).Pairwise (· < ·)) {s} (hsm : s ∈ r.2.2) (code : Nat)
    (h1 : code &&& Gen.langMask = r.1) (h2 : code >>> Gen.sublangShift = s.1) : tagIn T code = s.2 := by
  obtain ⟨j, hj, rfl⟩ := List.mem_iff_getElem.mp hsm
  have := bsearch_of_mem _ hss j (by simpa using hj)
  rw [getD_map_fst _ j hj, ← h2] at this
  rw [tagIn_row T hs hr code h1, this]
  simp only [List.getElem?_eq_getElem hj]

theorem compose_parts (a b : Nat) (ha : a < 1024) : (a ||| b <<< 10) &&& 1023 = a ∧ (a ||| b <<< 10) >>> 10 = b := by
  rw [Nat.or_comm, ← Nat.shiftLeft_add_eq_or_of_lt (i := 10) ha b, Nat.shiftLeft_eq, Nat.shiftRight_eq_div_pow,
    show (1023 : Nat) = 2 ^ 10 - 1 from rfl, Nat.and_two_pow_sub_one_eq_mod]
  omega

/-- neighbours ascend (a check linear in the list, which the kernel runs fast) -/
def ascending (l : List Nat) : Bool := (l.zip l.tail).all fun p => decide (p.1 < p.2)

theorem pairwise_of_ascending : ∀ l : List Nat, ascending l = true → l.Pairwise (· < ·)
  | [], _ => .nil
  | [a], _ => List.pairwise_singleton _ _
  | a :: b :: t, h => by
    simp only [ascending, List.tail_cons, List.zip_cons_cons, List.all_cons, Bool.and_eq_true, decide_eq_true_eq] at h
    have ih := pairwise_of_ascending (b :: t) h.2
    refine List.pairwise_cons.mpr ⟨fun c hc => ?_, ih⟩
    rcases List.mem_cons.mp hc with rfl | hc
    · exact h.1
    · exact Nat.lt_trans h.1 (List.rel_of_pairwise_cons ih hc)

/-- no two members are equal (a check the kernel runs fast) -/
def distinct {α} [BEq α] : List α → Bool
  | [] => true
  | a :: l => l.all (· != a) && distinct l

theorem pairwise_of_distinct {α} [BEq α] [LawfulBEq α] : ∀ l : List α, distinct l = true → l.Pairwise (· ≠ ·)
  | [], _ => .nil
  | a :: l, h => by
    simp only [distinct, Bool.and_eq_true, List.all_eq_true, bne_iff_ne] at h
    exact List.pairwise_cons.mpr ⟨fun b hb => (h.1 b hb).symm, pairwise_of_distinct l h.2⟩

/-- with distinct language tags the scan of `from_tag` stops at the row of the tag's language -/
theorem fromTagIn_row : ∀ (T : Table), (T.map (·.2.1)).Pairwise (· ≠ ·) → ∀ {r}, r ∈ T → ∀ (t : List Char),
    langPart t = r.2.1 →
    fromTagIn T t = if hasRegion t then
        match findSub r.2.2 t with
        | some sc => newCode r.1 sc
        | none => newCode r.1 Gen.sublangUnknownRegion
      else newCode r.1 Gen.sublangNoRegion
  | [], _, _, hr, _, _ => nomatch hr
  | (lc, lt, subs) :: rest, hd, r, hr, t, ht => by
    rw [List.map_cons, List.pairwise_cons] at hd
    unfold fromTagIn
    rcases List.mem_cons.mp hr with rfl | hr
    · rw [if_pos ht.symm]; rfl
    · rw [if_neg (fun e => hd.1 r.2.1 (List.mem_map_of_mem hr) (e.trans ht)), fromTagIn_row rest hd.2 hr t ht]

theorem findSub_mem : ∀ (subs : List (Nat × List Char)), (subs.map (·.2)).Pairwise (· ≠ ·) → ∀ {s}, s ∈ subs →
    findSub subs s.2 = some s.1
  | [], _, _, hs => nomatch hs
  | (c, u) :: rest, hd, s, hs => by
    rw [List.map_cons, List.pairwise_cons] at hd
    unfold findSub
    rcases List.mem_cons.mp hs with rfl | hs
    · rw [if_pos rfl]
    · rw [if_neg (fun e => hd.1 s.2 (List.mem_map_of_mem hs) e), findSub_mem rest hd.2 hs]


/-- composing a code from a language code below 1024 and a sublanguage code below 64 stays within 16 bits -/
theorem newCode_eq (a b : Nat) (ha : a < 1024) (hb : b < 64) : newCode a b = a ||| b <<< Gen.sublangShift := by
  have h1 : b <<< 10 < 65536 := by rw [Nat.shiftLeft_eq]; omega
  have h2 : a ||| b <<< 10 < 65536 := Nat.or_lt_two_pow (n := 16) (by omega) h1
  show (a ||| (b <<< 10) % 65536) % 65536 = a ||| b <<< 10
  rw [Nat.mod_eq_of_lt h1, Nat.mod_eq_of_lt h2]

/-- no tag in the table contains a second '-' before the language part ends, i.e. the
language part of every full tag is its row's language tag -/
theorem sub_tags_start_with_lang :
    ∀ r ∈ Gen.languages, ∀ s ∈ r.2.2, langPart s.2 = r.2.1 ∧ hasRegion s.2 = true := by
  decide +kernel

theorem lang_tags_plain : ∀ r ∈ Gen.languages, hasRegion r.2.1 = false ∧ langPart r.2.1 = r.2.1 := by
  decide +kernel

/-- what the two arguments need of the regenerated table: language codes ascending and within the
mask, language tags distinct; in each row sublanguage codes ascending from 1 and below 64, tags distinct -/
theorem table_shape :
    ascending (Gen.languages.map (·.1)) = true ∧ distinct (Gen.languages.map (·.2.1)) = true ∧
    (Gen.languages.all fun r => decide (r.1 < 1024) && ascending (r.2.2.map (·.1)) && distinct (r.2.2.map (·.2)) &&
      r.2.2.all fun s => decide (0 < s.1) && decide (s.1 < 64)) = true := by
  decide +kernel

/-- every pair of the table is read in both directions -/
theorem table_codes : ∀ r ∈ Gen.languages, ∀ p ∈ codeOfRow r, fromTag p.2 = p.1 ∧ tag p.1 = p.2 := by
  obtain ⟨hs, hd, hrows⟩ := table_shape
  have hs := pairwise_of_ascending _ hs
  have hd := pairwise_of_distinct _ hd
  intro r hr p hp
  have hrow := List.all_eq_true.mp hrows r hr
  simp only [Bool.and_eq_true, decide_eq_true_eq, List.all_eq_true] at hrow
  obtain ⟨⟨⟨hlt, hss⟩, hsd⟩, hsub⟩ := hrow
  have hss := pairwise_of_ascending _ hss
  have hsd := pairwise_of_distinct _ hsd
  rcases List.mem_cons.mp hp with rfl | hp
  · have hplain := lang_tags_plain r hr
    have hparts := compose_parts r.1 0 hlt
    simp only [Nat.zero_shiftLeft, Nat.or_zero] at hparts
    constructor
    · show fromTagIn Gen.languages r.2.1 = r.1
      rw [fromTagIn_row _ hd hr _ hplain.2, hplain.1, if_neg (by simp), newCode_eq _ _ hlt (by decide)]
      exact Nat.or_zero _
    · refine tagIn_lang _ hs hr _ hparts.1 ?_
      rw [show r.1 >>> Gen.sublangShift = 0 from hparts.2]
      intro h0
      obtain ⟨s, hs', hs0⟩ := List.mem_map.mp h0
      exact absurd hs0 (Nat.ne_of_gt (hsub s hs').1)
  · obtain ⟨s, hsm, rfl⟩ := List.mem_map.mp hp
    have hstart := sub_tags_start_with_lang r hr s hsm
    have hparts := compose_parts r.1 s.1 hlt
    constructor
    · show fromTagIn Gen.languages s.2 = _
      rw [fromTagIn_row _ hd hr _ hstart.1, if_pos hstart.2, findSub_mem _ hsd hsm]
      exact newCode_eq _ _ hlt (hsub s hsm).2
    · exact tagIn_sub _ hs hr hss hsm _ hparts.1 hparts.2

theorem allTags_eq (T : Table) : allTags T = (T.flatMap codeOfRow).map (·.2) := by
  simp [allTags, codeOfRow, List.map_flatMap, Function.comp_def]

/-- every tag of the table maps to a code whose tag is the same tag -/
theorem table_tags_fixed : ∀ t ∈ allTags Gen.languages, tag (fromTag t) = t := by
  intro t ht
  rw [allTags_eq] at ht
  obtain ⟨p, hp, rfl⟩ := List.mem_map.mp ht
  obtain ⟨r, hr, hpr⟩ := List.mem_flatMap.mp hp
  obtain ⟨h1, h2⟩ := table_codes r hr p hpr
  rw [h1, h2]

theorem und_fixed : fromTag und = 0 ∧ tag 0 = und := by decide +kernel

theorem new_never_asserts : newNeverAsserts Gen.languages = true := by decide +kernel

/-- tag → code → tag is the identity on whatever `tag` returns -/
theorem tag_stable (c : Nat) : tag (fromTag (tag c)) = tag c := by
  rcases tag_total c with h | h
  · rw [h]; have := und_fixed; rw [this.1, this.2]
  · exact table_tags_fixed _ h

/-! ### unknown language / unknown region -/

theorem fromTagIn_unknown_lang (T : Table) (t : List Char) (h : langPart t ∉ langTags T) :
    fromTagIn T t = newCode Gen.langUnknown.1 Gen.langUnknown.2 := by
  induction T with
  | nil => rfl
  | cons r rest ih =>
    obtain ⟨lc, lt, subs⟩ := r
    simp only [langTags, List.map_cons, List.mem_cons, not_or] at h
    unfold fromTagIn
    have : lt ≠ langPart t := fun e => h.1 e.symm
    simp only [this, if_false]
    exact ih (by simpa [langTags] using h.2)

/-- a tag whose language is unknown maps to the neutral language (code 0) -/
theorem unknown_lang_neutral (t : List Char) (h : langPart t ∉ langTags Gen.languages) :
    fromTag t = 0 := by
  unfold fromTag
  rw [fromTagIn_unknown_lang _ _ h]
  decide +kernel

theorem findSub_none {subs : List (Nat × List Char)} {t} (h : t ∉ subs.map (·.2)) :
    findSub subs t = none := by
  induction subs with
  | nil => rfl
  | cons s rest ih =>
    obtain ⟨c, u⟩ := s
    simp only [List.map_cons, List.mem_cons, not_or] at h
    unfold findSub
    have : u ≠ t := fun e => h.1 e.symm
    simp only [this, if_false]
    exact ih h.2

/-- the first row whose language tag equals the language part decides -/
theorem fromTagIn_unknown_region (T : Table) (t : List Char) (hr : hasRegion t = true)
    (hn : t ∉ allTags T) (hl : langPart t ∈ langTags T) :
    ∃ r ∈ T, r.2.1 = langPart t ∧ fromTagIn T t = newCode r.1 Gen.sublangUnknownRegion := by
  induction T with
  | nil => simp [langTags] at hl
  | cons r rest ih =>
    obtain ⟨lc, lt, subs⟩ := r
    unfold fromTagIn
    by_cases e : lt = langPart t
    · refine ⟨(lc, lt, subs), by simp, e, ?_⟩
      simp only [e, if_true, hr]
      have : t ∉ subs.map (·.2) := by
        intro hm
        apply hn
        unfold allTags
        simp only [List.flatMap_cons, List.mem_append, List.mem_cons]
        exact Or.inl (Or.inr hm)
      rw [findSub_none this]
    · simp only [e, if_false]
      have hn' : t ∉ allTags rest := by
        intro hm; apply hn
        unfold allTags at hm ⊢
        simp only [List.flatMap_cons, List.mem_append]
        exact Or.inr hm
      have hl' : langPart t ∈ langTags rest := by
        simp only [langTags, List.map_cons, List.mem_cons] at hl
        rcases hl with h | h
        · exact absurd h.symm e
        · exact h
      obtain ⟨r, hr1, hr2, hr3⟩ := ih hn' hl'
      exact ⟨r, List.mem_cons_of_mem _ hr1, hr2, hr3⟩

/-- for every row, the code `from_tag` builds for an unknown region of that row's
language carries the bare language tag (so never another region's tag) -/
theorem unknown_region_code_is_bare :
    ∀ r ∈ Gen.languages, tag (newCode r.1 Gen.sublangUnknownRegion) = r.2.1 := by
  intro r hr
  have hle : r.1 ≤ 1023 := by
    exact of_decide_eq_true (List.all_eq_true.mp new_never_asserts r hr)
  have : newCode r.1 Gen.sublangUnknownRegion = r.1 := by
    simp only [newCode, Gen.sublangUnknownRegion, Nat.zero_shiftLeft, Nat.zero_mod, Nat.or_zero]
    omega
  rw [this]
  exact (table_codes r hr (r.1, r.2.1) List.mem_cons_self).2

/-- a tag whose language is known but whose region is not maps to a code whose tag is the
bare language: never the code of a different, known regional variant -/
theorem unknown_region_safe (t : List Char) (hr : hasRegion t = true)
    (hl : langPart t ∈ langTags Gen.languages) (hn : t ∉ allTags Gen.languages) :
    tag (fromTag t) = langPart t := by
  obtain ⟨r, hm, he, hc⟩ := fromTagIn_unknown_region Gen.languages t hr hn hl
  unfold fromTag
  rw [hc, unknown_region_code_is_bare r hm, he]

/-! ### well-known Windows identifiers (Windows language-identifier reference) -/

def wellKnown : List (Nat × String) := [
  (1033, "en-US"), (2057, "en-GB"), (3081, "en-AU"), (4105, "en-CA"), (1036, "fr-FR"),
  (3084, "fr-CA"), (2060, "fr-BE"), (4108, "fr-CH"), (1031, "de-DE"), (2055, "de-CH"),
  (3079, "de-AT"), (1041, "ja-JP"), (1042, "ko-KR"), (1028, "zh-TW"), (2052, "zh-CN"),
  (3076, "zh-HK"), (4100, "zh-SG"), (1040, "it-IT"), (2064, "it-CH"), (2058, "es-MX"),
  (1046, "pt-BR"), (2070, "pt-PT"), (1049, "ru-RU"), (1043, "nl-NL"), (2067, "nl-BE"),
  (1053, "sv-SE"), (1044, "nb-NO"), (1030, "da-DK"), (1035, "fi-FI"), (1045, "pl-PL"),
  (1029, "cs-CZ"), (1038, "hu-HU"), (1032, "el-GR"), (1055, "tr-TR"), (1037, "he-IL"),
  (1025, "ar-SA"), (1054, "th-TH"), (1066, "vi-VN"), (1057, "id-ID"), (1058, "uk-UA"),
  (9, "en"), (12, "fr"), (7, "de"), (17, "ja"), (4, "zh")]

theorem well_known : ∀ p ∈ wellKnown, String.ofList (tag p.1) = p.2 ∧ fromTag p.2.toList = p.1 := by
  decide +kernel

/-! ### the code is preserved; non-vacuity -/

/-- `Language::from_code(c).code() == c`: the model of `Language` *is* its code. -/
theorem code_preserved (c : Nat) : (fun (x : Nat) => x) c = c := rfl

example : hasRegion "en-XX".toList = true ∧ langPart "en-XX".toList ∈ langTags Gen.languages
    ∧ "en-XX".toList ∉ allTags Gen.languages := by decide +kernel
example : langPart "xx-YY".toList ∉ langTags Gen.languages := by decide +kernel
example : tag 1033 = "en-US".toList := by decide +kernel

end MsiProofs.C17
