import MsiModel.Timestamp
/-
C18 — creation times convert to and from Windows timestamps without drift.
All statements are over every `Int` (every system time) / every tick value; proofs are
linear integer arithmetic over the constants regenerated from timestamp.rs.
-/
namespace MsiProofs.C18
open MsiModel MsiModel.Timestamp

/-- the constants the proofs below are about are the documented ones (re-decided each run:
a changed constant in the source makes this fail and the property is re-examined) -/
theorem constants :
    Gen.unixEpochTicks = 116444736000000000 ∧ Gen.ticksPerSec = 10000000 ∧ Gen.nanosPerTick = 100 ∧
    Gen.backTicksPerSecDiv = 10000000 ∧ Gen.backTicksPerSecMod = 10000000 ∧ Gen.backNanosPerTick = 100 := by
  decide +kernel

theorem deltaToDuration_eq (d : Nat) :
    deltaToDuration d = some (d / 10000000, d % 10000000 * 100) := by
  unfold deltaToDuration
  have e2 : Gen.backTicksPerSecMod = 10000000 := rfl
  have e3 : Gen.backTicksPerSecDiv = 10000000 := rfl
  have e4 : Gen.backNanosPerTick = 100 := rfl
  rw [e2, e3, e4]
  have h0 : d % 10000000 % 4294967296 = d % 10000000 := by omega
  have h1 : d % 10000000 * 100 < 4294967296 := by omega
  simp only [h0, h1, if_true]

/-- `system_time_from_timestamp` never panics, never needs its `UNIX_EPOCH` fallback, and
is exactly `(k - epoch) * 100 ns` -/
theorem toSystemTime_total (k : Nat) (hk : k ≤ u64Max) :
    ∃ t : Int, toSystemTime k = some t ∧ t = (k : Int) * 100 - 11644473600000000000 := by
  unfold toSystemTime
  have e1 : Gen.unixEpochTicks = 116444736000000000 := rfl
  have e5 : u64Max = 18446744073709551615 := rfl
  have e6 : i64Max = 9223372036854775807 := rfl
  have e7 : nsPerSec = 1000000000 := rfl
  rw [e5] at hk
  rw [e1, e6, e7]
  split
  · rename_i h
    rw [deltaToDuration_eq]
    simp only
    have h2 : ¬ ((k - 116444736000000000) / 10000000 +
        (k - 116444736000000000) % 10000000 * 100 / 1000000000 > 9223372036854775807) := by
      omega
    simp only [h2, if_false]
    refine ⟨_, rfl, ?_⟩
    omega
  · rename_i h
    rw [deltaToDuration_eq]
    simp only
    have h2 : ¬ ((116444736000000000 - k) / 10000000 +
        (116444736000000000 - k) % 10000000 * 100 / 1000000000 > 9223372036854775807 + 1) := by
      omega
    simp only [h2, if_false]
    refine ⟨_, rfl, ?_⟩
    omega

theorem key (d : Nat) : d / 1000000000 * 10000000 + d % 1000000000 / 100 = d / 100 := by omega
theorem satAdd_absorb (x y U : Nat) : min (min x U + y) U = min (x + y) U := by omega

/-- closed form of `timestamp_from_system_time`, at or after the Unix epoch -/
theorem fromSystemTime_nonneg (t : Int) (h : 0 ≤ t) :
    fromSystemTime t = min (116444736000000000 + t.toNat / 100) u64Max := by
  unfold fromSystemTime durationToDelta satAdd satMul
  have e1 : Gen.unixEpochTicks = 116444736000000000 := rfl
  have e2 : Gen.ticksPerSec = 10000000 := rfl
  have e3 : Gen.nanosPerTick = 100 := rfl
  have e7 : nsPerSec = 1000000000 := rfl
  rw [e1, e2, e3, e7, if_pos h]
  dsimp only
  rw [satAdd_absorb, Nat.add_comm 116444736000000000, satAdd_absorb, Nat.add_comm, key]

/-- ... and before it (`saturating_sub`) -/
theorem fromSystemTime_neg (t : Int) (h : ¬ 0 ≤ t) :
    fromSystemTime t = 116444736000000000 - min ((-t).toNat / 100) u64Max := by
  unfold fromSystemTime durationToDelta satAdd satMul
  have e1 : Gen.unixEpochTicks = 116444736000000000 := rfl
  have e2 : Gen.ticksPerSec = 10000000 := rfl
  have e3 : Gen.nanosPerTick = 100 := rfl
  have e7 : nsPerSec = 1000000000 := rfl
  rw [e1, e2, e3, e7, if_neg h]
  dsimp only
  rw [satAdd_absorb, key]

theorem fromSystemTime_le (t : Int) : fromSystemTime t ≤ u64Max := by
  by_cases h : 0 ≤ t
  · rw [fromSystemTime_nonneg t h]; omega
  · rw [fromSystemTime_neg t h]; unfold u64Max; omega

theorem minNs_eq : minNs = -11644473600000000000 := by decide +kernel
theorem maxNs_eq : maxNs = 1833029933770955161500 := by decide +kernel

/-- **within resolution**: any time between 1601 and the 64-bit tick maximum (year 60056)
comes back within 100 ns of what was set -/
theorem within_resolution (t : Int) (h1 : minNs ≤ t) (h2 : t ≤ maxNs + 99) :
    ∃ r : Int, toSystemTime (fromSystemTime t) = some r ∧ (t - r < 100 ∧ r - t < 100) := by
  obtain ⟨r, hr, hv⟩ := toSystemTime_total _ (fromSystemTime_le t)
  refine ⟨r, hr, ?_⟩
  rw [minNs_eq] at h1
  rw [maxNs_eq] at h2
  by_cases h : 0 ≤ t
  · rw [fromSystemTime_nonneg t h] at hv
    have e5 : u64Max = 18446744073709551615 := rfl
    rw [e5] at hv
    generalize hq : t.toNat / 100 = q at hv
    have : q * 100 ≤ t.toNat ∧ t.toNat < q * 100 + 100 := by omega
    omega
  · rw [fromSystemTime_neg t h] at hv
    have e5 : u64Max = 18446744073709551615 := rfl
    rw [e5] at hv
    generalize hq : (-t).toNat / 100 = q at hv
    have : q * 100 ≤ (-t).toNat ∧ (-t).toNat < q * 100 + 100 := by omega
    omega

/-- **ticks are fixed points**: converting a timestamp to a system time and back is the
identity, so setting a returned creation time again returns it unchanged -/
theorem ticks_fixed (k : Nat) (hk : k ≤ u64Max) :
    ∃ t, toSystemTime k = some t ∧ fromSystemTime t = k := by
  obtain ⟨t, ht, hv⟩ := toSystemTime_total k hk
  refine ⟨t, ht, ?_⟩
  have e5 : u64Max = 18446744073709551615 := rfl
  rw [e5] at hk
  by_cases h : 0 ≤ t
  · rw [fromSystemTime_nonneg t h, e5]
    have : t.toNat / 100 = k - 116444736000000000 := by omega
    rw [this]; omega
  · rw [fromSystemTime_neg t h, e5]
    have : (-t).toNat / 100 = 116444736000000000 - k := by omega
    rw [this]; omega

theorem set_get_idempotent (t : Int) :
    ∃ r, toSystemTime (fromSystemTime t) = some r ∧ fromSystemTime r = fromSystemTime t :=
  ticks_fixed _ (fromSystemTime_le t)

/-- **monotone** -/
theorem monotone (t₁ t₂ : Int) (h : t₁ ≤ t₂) : fromSystemTime t₁ ≤ fromSystemTime t₂ := by
  -- once the quotients are variables, each case is a fact about `min` and truncated subtraction
  by_cases h1 : 0 ≤ t₁ <;> by_cases h2 : 0 ≤ t₂
  · rw [fromSystemTime_nonneg _ h1, fromSystemTime_nonneg _ h2]
    have : t₁.toNat / 100 ≤ t₂.toNat / 100 := Nat.div_le_div_right (by omega)
    generalize t₁.toNat / 100 = a, t₂.toNat / 100 = b, u64Max = U at *
    omega
  · omega
  · rw [fromSystemTime_neg _ h1, fromSystemTime_nonneg _ h2]
    generalize (-t₁).toNat / 100 = a, t₂.toNat / 100 = b
    have : 116444736000000000 ≤ u64Max := by decide
    omega
  · rw [fromSystemTime_neg _ h1, fromSystemTime_neg _ h2]
    have : (-t₂).toNat / 100 ≤ (-t₁).toNat / 100 := Nat.div_le_div_right (by omega)
    generalize (-t₁).toNat / 100 = a, (-t₂).toNat / 100 = b, u64Max = U at *
    omega

theorem toSystemTime_monotone (k₁ k₂ : Nat) (h : k₁ ≤ k₂) (h2 : k₂ ≤ u64Max) :
    ∃ a b, toSystemTime k₁ = some a ∧ toSystemTime k₂ = some b ∧ a ≤ b := by
  obtain ⟨a, ha, hva⟩ := toSystemTime_total k₁ (by omega)
  obtain ⟨b, hb, hvb⟩ := toSystemTime_total k₂ h2
  exact ⟨a, b, ha, hb, by omega⟩

/-- **saturation** at both ends instead of panicking -/
theorem saturates_low (t : Int) (h : t ≤ minNs) : fromSystemTime t = 0 := by
  rw [minNs_eq] at h
  have e5 : u64Max = 18446744073709551615 := rfl
  rw [fromSystemTime_neg t (by omega), e5]
  have : 116444736000000000 ≤ (-t).toNat / 100 := by omega
  omega

theorem saturates_high (t : Int) (h : maxNs ≤ t) : fromSystemTime t = u64Max := by
  rw [maxNs_eq] at h
  have e5 : u64Max = 18446744073709551615 := rfl
  rw [fromSystemTime_nonneg t (by omega), e5]
  have : 18330299337709551615 ≤ t.toNat / 100 := by omega
  omega

/-- non-vacuity: the range hypothesis is satisfiable on both sides of the epoch -/
example : minNs ≤ (-150 : Int) ∧ (-150 : Int) ≤ maxNs + 99 := by decide +kernel
example : fromSystemTime (-150) = 116444735999999999 ∧ toSystemTime 116444735999999999 = some (-100) := by decide +kernel
example : fromSystemTime 1489862796000000000 = 131343363960000000 := by decide +kernel

end MsiProofs.C18
