import MsiModel.Expr
import MsiProofs.Lemmas.ExprRead
import MsiProofs.Lemmas.ExprLex
/-
C19 — printed queries mean what the query objects mean.
-/
namespace MsiProofs.C19
open MsiModel

/-- the precedence ladder of the project's query grammar, as listed in the property:
OR < AND < NOT < comparison < | < ^ < & < shifts < + - < * / < unary minus and ~ -/
def ladderBin : BinOp → Nat
  | .eq | .ne | .lt | .le | .gt | .ge => 4
  | .bitOr => 5 | .bitXor => 6 | .bitAnd => 7
  | .shl | .shr => 8 | .add | .sub => 9 | .mul | .div => 10
def ladderUn : UnOp → Nat
  | .boolNot => 3 | .neg | .bitNot => 11
def ladderAnd : Nat := 2
def ladderOr : Nat := 1

/-- the precedences regenerated from `BinOp::precedence` / `UnOp::precedence` / the AND and OR
arms of `format_with_precedence` are the ladder's -/
theorem gen_table_agrees :
    (∀ op : BinOp, op.prec = ladderBin op) ∧ (∀ op : UnOp, op.prec = ladderUn op) ∧
    Gen.precAnd = ladderAnd ∧ Gen.precOr = ladderOr := by
  refine ⟨fun op => by cases op <;> rfl, fun op => by cases op <;> rfl, rfl, rfl⟩

/-- the translator recognised the printer's shape (left operand at the operator's level,
right operand one higher, parentheses iff looser than the context) -/
theorem printer_shape : Gen.printerShapeRecognised = true := rfl

/-- the operator spellings are the grammar's tokens -/
theorem spellings :
    Gen.textEq = " = " ∧ Gen.textNe = " != " ∧ Gen.textLt = " < " ∧ Gen.textLe = " <= " ∧
    Gen.textGt = " > " ∧ Gen.textGe = " >= " ∧ Gen.textAdd = " + " ∧ Gen.textSub = " - " ∧
    Gen.textMul = " * " ∧ Gen.textDiv = " / " ∧ Gen.textBitAnd = " & " ∧ Gen.textBitOr = " | " ∧
    Gen.textBitXor = " ^ " ∧ Gen.textShl = " << " ∧ Gen.textShr = " >> " ∧ Gen.textNeg = "-" ∧
    Gen.textBitNot = "~" ∧ Gen.textBoolNot = "NOT " ∧ Gen.textAnd = " AND " ∧ Gen.textOr = " OR " :=
  ⟨rfl, rfl, rfl, rfl, rfl, rfl, rfl, rfl, rfl, rfl, rfl, rfl, rfl, rfl, rfl, rfl, rfl, rfl, rfl, rfl⟩


/-! ### the reader round trip

`toks e p` is the token form of `format_with_precedence` (same recursion, same regenerated
precedences); `render_toks` shows it spells exactly the printed text (`Ast.fmt`, which is what
the correspondence check diffs against the real `to_string()`), and `read_print` shows that a
precedence-climbing reader using the grammar's ladder — written out independently of the
generated tables — reads those tokens back as the tree they were printed from, for every tree:
no bound on depth, every parent/child operator pair on either side. -/

/-- the token form spells the printed text -/
def render_toks := @MsiProofs.ExprRead.render_toks
/-- **read (print e) = e** -/
def read_print := @MsiProofs.ExprRead.readExpr_toks
/-- the same in any context (used for `WHERE`/`ON` clauses inside queries) -/
def read_print_in_context := @MsiProofs.ExprRead.parse_toks_in_context

/-- hence the expression read back evaluates identically on every row and names the same
columns and literals -/
theorem read_print_eval (e e' : Ast) (h : readExpr (toks e 0) = some e') (r : Row) :
    e'.eval r = e.eval r ∧ e'.columns = e.columns := by
  rw [read_print e] at h
  cases h
  exact ⟨rfl, rfl⟩

/-- the parenthesisation is needed, not just sufficient: without the parentheses the reader
returns a different tree (so a printer that drops them is caught by the theorem above) -/
example : readExpr [.ident ['a'], .op .mul, .ident ['b'], .op .add, .ident ['c']]
    = some (.bin .add (.bin .mul (.col ['a']) (.col ['b'])) (.col ['c'])) := by decide
example : toks (.bin .mul (.col ['a']) (.bin .add (.col ['b']) (.col ['c']))) 0
    = [.ident ['a'], .op .mul, .lp, .ident ['b'], .op .add, .ident ['c'], .rp] := by decide
example : toks (.bin .eq (.un .boolNot (.col ['a'])) (.col ['b'])) 0
    = [.lp, .not, .ident ['a'], .rp, .op .eq, .ident ['b']] := by decide


/-! ### from characters

`readText` = the grammar's lexical rules (`MsiModel/ExprLex.lean`: blanks, identifiers that are
not keywords, integers with an optional sign directly in front, quoted strings without escapes,
two-character operators) followed by the ladder reader.  The domain (`Good`): column names are
identifiers of the grammar, and a prefix minus is not applied directly to a non-negative integer
literal — which the API's constructors never produce (`good_build`), since they fold that case. -/

/-- **readText (to_string e) = e** for every expression in the domain whose text needs no escapes -/
def read_text_print := @MsiProofs.ExprLex.readText_fmt
/-- the lexer yields exactly the printer's token form -/
def lex_print := @MsiProofs.ExprLex.lex_fmtP
/-- expressions built through the API are in the domain -/
def good_build := @MsiProofs.ExprLex.good_build

/-- the statement of the property for expressions, end to end on the model: build any tree of
constructor calls over identifier column names; if its text prints without escapes, reading that
text gives back the built expression, which therefore evaluates identically on every row -/
theorem printed_means_same (e : Ast) (hc : ∀ n ∈ e.columns, MsiProofs.ExprLex.GoodIdent n)
    (s : List Char) (hs : e.build.fmt = some s) :
    ∃ e', readText s = some e' ∧ (∀ r : Row, e'.eval r = e.build.eval r) ∧ e'.columns = e.build.columns :=
  ⟨e.build, read_text_print e.build (good_build e hc) s hs, fun _ => rfl, rfl⟩

/-- the domain restriction is needed: `-` applied to the literal 5 prints like the literal -5 -/
example : (Ast.un .neg (.lit (.int 5))).fmt = (Ast.lit (.int (-5))).fmt := by decide
/-- non-vacuity: a nested expression in the domain, its text, and the text read back -/
example : MsiProofs.ExprLex.Good
    (.bin .mul (.col ['a']) (.bin .sub (.un .neg (.col ['b', '.', 'c'])) (.lit (.int (-5))))) :=
  ⟨⟨_, _, rfl, by decide, by decide, by decide⟩,
   ⟨⟨_, _, rfl, by decide, by decide, by decide⟩, fun _ n h => by cases h⟩, trivial⟩

end MsiProofs.C19
