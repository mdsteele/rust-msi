import MsiProofs.Props.C19
import MsiProofs.Lemmas.StmtRead
import MsiProofs.Lemmas.StmtLex
import MsiModel.QueryFmt
import MsiModel.Gen.Stmt
/-
C19 for statements.  The words and signs of a printed `UPDATE`, `DELETE` or `INSERT`, in order,
determine the statement: a reader over those tokens returns the table, every assignment with its
value in order (a column assigned twice stays assigned twice, the later one last), every row of
values, and the condition as the same expression tree (read by the expression reader of C19).
From characters (`StmtLex`): a reader of the printed TEXT - keywords with their blanks, identifiers,
literals cut off at `,`, blank or `)` (or at the closing quote) and handed to the expression lexer,
the condition after ` WHERE ` read by `readText` of C19 - gives back the statement that was printed
(`update_text_reads`, `delete_text_reads`, `insert_text_reads`), for identifier names, literals
without escapes and conditions in the domain of the expression theorem.
`SELECT` with joins: tied by correspondence and the reference reader of the harness only.
-/
namespace MsiProofs.C19
open MsiModel MsiProofs.StmtRead

def readDelete_toks := @MsiProofs.StmtRead.readDelete_toks
def readUpdate_toks := @MsiProofs.StmtRead.readUpdate_toks
def readInsert_toks := @MsiProofs.StmtRead.readInsert_toks
def readAssigns_toks := @MsiProofs.StmtRead.readAssigns_toks
def readRows_toks := @MsiProofs.StmtRead.readRows_toks

/-- the token list is the text, word by word: an update that assigns one column twice and carries
a condition (kernel-evaluated on the model of `impl Display for Update`) -/
theorem demo_update_text :
    QueryFmt.fmtUpdate "Tab".toList [("A".toList, .int 0), ("S".toList, .str "none".toList), ("A".toList, .int 7)]
      (some (.bin .lt (.col "K".toList) (.lit (.int 5)))) =
    some "UPDATE Tab SET A = 0, S = \"none\", A = 7 WHERE K < 5".toList := by decide +kernel

/-- and its tokens read back as the statement it is, both assignments to `A` in place -/
theorem demo_update_reads :
    readUpdate (updateToks "Tab".toList [("A".toList, .int 0), ("S".toList, .str "none".toList), ("A".toList, .int 7)]
      (some (.bin .lt (.col "K".toList) (.lit (.int 5))))) =
    some ("Tab".toList, [("A".toList, .int 0), ("S".toList, .str "none".toList), ("A".toList, .int 7)],
      some (.bin .lt (.col "K".toList) (.lit (.int 5)))) :=
  readUpdate_toks _ _ (by simp) _


/-- **the words and signs the printers write** (regenerated from the `Display` implementations of
query.rs, per implementation in source order, with the number of `write!` calls - none) are the
ones the model of the printers (QueryFmt) spells out and the readers above expect -/
theorem stmt_spellings : Gen.displayLits =
    [("Delete", ["DELETE FROM ", " WHERE "], 0),
     ("Insert", ["INSERT INTO ", " VALUES ", ", ", "(", ", ", ")"], 0),
     ("Join", [" INNER JOIN ", " ON ", " LEFT JOIN ", " ON "], 0),
     ("Select", ["SELECT ", "*", ", ", " FROM ", " WHERE "], 0),
     ("Update", ["UPDATE ", " SET ", ", ", " = ", " WHERE "], 0),
     ("format_for_join", ["(", ")"], 0)] := rfl

/-- and the model prints with them: an INSERT of two rows, a DELETE, a nested join (kernel-evaluated) -/
theorem demo_printers_use_them :
    QueryFmt.fmtInsert "T".toList [[.int 1, .null], []] = some "INSERT INTO T VALUES (1, NULL), ()".toList ∧
    QueryFmt.fmtDelete "T".toList (some (.col "A".toList)) = some "DELETE FROM T WHERE A".toList ∧
    QueryFmt.fmtSelect (.mk (.left (.mk (.table "A".toList) [] none) (.mk (.table "B".toList) ["X".toList] none) (.col "Y".toList)) ["P".toList, "Q".toList] none)
      = some "SELECT P, Q FROM A LEFT JOIN (SELECT X FROM B) ON Y".toList := by decide +kernel

/-! ### from characters -/
open MsiProofs.StmtLex MsiProofs.ExprLex MsiModel.StmtLex

/-- **a printed UPDATE, read from its characters, is the statement that was printed**: the table,
every assignment with its value in order, and the condition as the same expression tree -/
theorem update_text_reads (t : List Char) (ups : List (List Char × Value)) (cond : Option Ast)
    (ht : GoodIdent t) (hne : ups ≠ []) (hid : ∀ p ∈ ups, GoodIdent p.1) (hg : GoodCond cond)
    (s : List Char) (h : QueryFmt.fmtUpdate t ups cond = some s) :
    readUpdateText s = some (t, ups, cond) :=
  readUpdateText_fmt t ups cond (goodIdent_idChars ht) hne (fun p hp => goodIdent_idChars (hid p hp)) hg s h

theorem delete_text_reads (t : List Char) (cond : Option Ast) (ht : GoodIdent t) (hg : GoodCond cond)
    (s : List Char) (h : QueryFmt.fmtDelete t cond = some s) : readDeleteText s = some (t, cond) :=
  readDeleteText_fmt t cond (goodIdent_idChars ht) hg s h

theorem insert_text_reads (t : List Char) (rows : List (List Value)) (ht : GoodIdent t)
    (s : List Char) (h : QueryFmt.fmtInsert t rows = some s) : readInsertText s = some (t, rows) :=
  readInsertText_fmt t rows (goodIdent_idChars ht) s h

/-- end to end for an UPDATE whose condition is built through the API over identifier columns -/
theorem printed_update_means_same (t : List Char) (ups : List (List Char × Value)) (e : Ast)
    (ht : GoodIdent t) (hne : ups ≠ []) (hid : ∀ p ∈ ups, GoodIdent p.1)
    (hc : ∀ n ∈ e.columns, GoodIdent n) (s : List Char)
    (h : QueryFmt.fmtUpdate t ups (some e.build) = some s) :
    readUpdateText s = some (t, ups, some e.build) :=
  update_text_reads t ups (some e.build) ht hne hid (good_build e hc) s h

/-- the literal cut is needed where it is: a quoted value may hold `, ` and ` WHERE ` itself -/
theorem demo_update_text_reads :
    readUpdateText "UPDATE Tab SET A = 0, S = \"x, y WHERE z\", A = -7 WHERE K < 5".toList =
    some ("Tab".toList, [("A".toList, .int 0), ("S".toList, .str "x, y WHERE z".toList), ("A".toList, .int (-7))],
      some (.bin .lt (.col "K".toList) (.lit (.int 5)))) := by decide +kernel

theorem demo_insert_text_reads :
    readInsertText "INSERT INTO Tab VALUES (1, \"a)\", NULL), (), (-2147483648)".toList =
    some ("Tab".toList, [[.int 1, .str "a)".toList, .null], [], [.int (-2147483648)]]) := by decide +kernel

theorem demo_delete_text_reads :
    readDeleteText "DELETE FROM Tab".toList = some ("Tab".toList, none) ∧
    readDeleteText "DELETE FROM Tab WHERE NOT (A = 1 OR B = 2)".toList =
      some ("Tab".toList, some (.un .boolNot (.or (.bin .eq (.col "A".toList) (.lit (.int 1))) (.bin .eq (.col "B".toList) (.lit (.int 2)))))) := by
  decide +kernel

end MsiProofs.C19
