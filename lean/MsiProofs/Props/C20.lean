import MsiModel.PkgApi
import MsiProofs.Lemmas.Exec
/-
C20 — capacity limits are enforced as errors, and symmetrically.
-/
namespace MsiProofs.C20
open MsiModel MsiModel.Pkg

/-- the limits as the code states them (regenerated) -/
theorem limits : Gen.maxTableColumns = 32 ∧ Gen.maxTableRows = 65536 ∧ Gen.maxStringRef = 16777215 ∧
    Gen.maxShortRefStrings = 65535 ∧ Gen.snMaxNameLen = 31 := by decide +kernel

/-- **too many columns**: refused, and the package is unchanged -/
theorem too_many_columns (s : Pkg) (name : List Char) (cols : List Column)
    (h : cols.length > Gen.maxTableColumns) : ∃ k, createTable s name cols = (s, .err k) := by
  cases hk : createError s name cols with
  | some k => exact ⟨k, Exec.createTable_of_error hk⟩
  | none => exact absurd (Exec.createError_eq_none.mp hk).2.2.2.1 (Nat.not_le.mpr h)

/-- **row limit, writer side**: an insert that would bring the table beyond what the reader
accepts is an error and leaves the state as it was (the reader's bound is the same constant) -/
theorem row_limit_insert (s : Pkg) (t : Table) (tname : List Char) (rows : List (List Value))
    (existing : List (List Cell)) (m : RowMap)
    (ht : s.findTable tname = some t)
    (hlen : ¬ (rows.any fun r => r.length ≠ t.columns.length) = true)
    (hval : ¬ (rows.any fun r => (t.columns.zip r).any fun (c, v) => !c.isValidValue v) = true)
    (hload : s.loadRows t = .ok existing)
    (hmap : loadMap s.pool t.keyIndices existing [] = some m)
    (hnew : checkNew t.keyIndices m (rows.map fun r => r.map storable) [] = none)
    (hbig : m.length + rows.length > Gen.maxTableRows) :
    insertExec s tname rows = (s, .err .invalidInput) := by
  unfold insertExec
  simp only [ht, hlen, hval, hload, hmap, hnew, List.length_map, hbig, if_true]
  simp

/-- **row limit, reader side**: a stream with more rows than the limit is refused -/
theorem row_limit_read (t : Table) (data : Bytes.Bytes)
    (h : t.rowSize > 0 ∧ data.length / t.rowSize > Gen.maxTableRows) :
    t.readRows data = .err .invalidData := by
  unfold Table.readRows
  simp [h.1, h.2]

/-- **string limit**: `incref` panics only when the pool is at the capacity of its reference
width; strictly below it a new string is always accepted (the panic at the limit itself is
a recorded finding) -/
theorem incref_below_limit (p : Pool) (s : List Char)
    (h : p.strings.length < Gen.maxShortRefStrings) : ∃ r, p.incref s = .ok r := by
  unfold Pool.incref
  split
  · exact ⟨_, rfl⟩
  · have e1 : Gen.maxShortRefStrings = 65535 := rfl
    have e2 : Gen.maxStringRef = 16777215 := rfl
    rw [e1] at h
    rw [e1, e2]
    have h1 : ¬ (p.strings.length ≥ 65535 ∧ (!p.longRefs) = true) := by omega
    have h2 : ¬ (p.strings.length ≥ 16777215) := by omega
    simp only [h1, h2, if_false]
    exact ⟨_, rfl⟩

/-- the recorded finding, as a theorem about the model: at the limit a fresh string panics -/
theorem incref_at_limit_panics (p : Pool) (s : List Char)
    (hfull : p.strings.length ≥ Gen.maxShortRefStrings) (hshort : p.longRefs = false)
    (hnone : Pool.increfScan s p.strings 0 = none) : ∃ w, p.incref s = .panic w := by
  unfold Pool.incref
  simp [hnone, hfull, hshort]

/-- **names**: a table name is accepted only if it fits the container (31 UTF-16 units once
packed, marker included) -/
theorem table_name_fits (n : List Char) (h : Table.isValidName n = true) :
    StreamName.utf16Len (StreamName.encode n true) ≤ 31 := by
  unfold Table.isValidName at h
  simp only [Bool.and_eq_true] at h
  have h2 := h.2
  unfold StreamName.isValid at h2
  split at h2
  · cases h2
  · split at h2
    · cases h2
    · have e : Gen.snMaxNameLen = 31 := rfl
      rw [e] at h2
      simpa using h2

end MsiProofs.C20
